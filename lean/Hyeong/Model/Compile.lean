import Hyeong.Model.CompileText
import Hyeong.Model.Optimize
import Hyeong.Model.Num
/-!
# Model.Compile — `src/core/compile.rs`

`build_source` in two layers:

* **IR** (`Prog`): which prelude (stack vector of a fixed size at levels ≥ 1, hash map at level 0), the
  captured text to print first, the restored state of a level-2 program (stacks as number texts, selected
  stack, return target and labels translated from command indices to block indices, first block to run),
  and the block list — every area-carrying command alone in its block, area-free commands grouped.
* **emit**: the Rust text, from the literal pieces of the source (`CompileText`, template strings below).
  Program-dependent text is only decimal numerals and string literals used as *arguments*; string
  literals are emitted raw (the check decodes the `{:?}` escapes of the real output before comparing).

`Hyeong.Lemmas.Compile*` give the IR its meaning (`irStep`: one iteration of the emitted `while` loop)
and relate it to the interpreter.
-/
namespace HyC
open HyE HyP

/-! ## blocks -/

/-- block builder state: finished blocks and the block under construction (`codes = done ++ [cur]`) -/
structure BB where
  done : List (List Cmd)
  cur : List Cmd
deriving Repr

/-- add one command; returns the builder and the index of the block the command went to -/
def BB.add (b : BB) (c : Cmd) : BB × Nat :=
  match c.area with
  | .nil => (⟨b.done, b.cur ++ [c]⟩, b.done.length)
  | .val _ _ _ =>
    if b.cur = [] then (⟨b.done ++ [[c]], []⟩, b.done.length)
    else (⟨b.done ++ [b.cur, [c]], []⟩, b.done.length + 1)

def BB.addAll (b : BB) : List Cmd → BB × List Nat
  | [] => (b, [])
  | c :: cs =>
    let r := b.add c
    let r2 := r.1.addAll cs
    (r2.1, r.2 :: r2.2)

/-- `if !codes.last().is_empty() { codes.push(Vec::new()) }` -/
def BB.fresh (b : BB) : BB := if b.cur = [] then b else ⟨b.done ++ [b.cur], []⟩

/-- `if codes.last().is_empty() { codes.pop() }` -/
def BB.finish (b : BB) : List (List Cmd) := if b.cur = [] then b.done else b.done ++ [b.cur]

/-! ## IR -/

structure Restore where
  /-- non-empty stacks, bottom first, as the texts `Num::from_string` reads back -/
  stacks : List (Nat × List (List Char))
  cur : Nat
  last : Option Nat
  /-- `point.insert(id, block)` in the order emitted (sorted by location; ties in hash-map order) -/
  points : List (Nat × Nat)
  start : Nat

structure Prog where
  opt : Bool
  size : Nat
  out : List Char
  err : List Char
  restore : Option Restore
  blocks : List (List Cmd)
  /-- no residual code: the emitted program only prints the captured text -/
  hasCode : Bool

/-- `build_source(state, code, level)`: `pre` = the code vector of the state (pre-executed commands),
`s`/`w` the state and captured text `optimize` returned, `res` the remaining commands -/
def compile (level size : Nat) (pre : List Cmd) (s : St HyN.NumI) (stackIdx : List Nat) (out err : List Char)
    (res : List Cmd) : Prog :=
  let opt := level ≠ 0
  if res = [] then ⟨opt, size, out, err, none, [], false⟩
  else if level ≥ 2 then
    let b1 := (BB.mk [] []).addAll pre
    let blockOf := b1.2
    let stacks := stackIdx.filterMap (fun i =>
      let v := s.stacks i
      if v = [] then none else some (i, v.reverse.map HyN.display))
    let pts := (s.points.map (fun p => (p.1, blockOf.getD p.2 0)))
    let last := s.latest.map (fun v => blockOf.getD v 0)
    let b2 := b1.1.fresh
    let b3 := (b2.addAll res).1
    ⟨opt, size, out, err, some ⟨stacks, s.cur, last, pts, b2.done.length⟩, b3.finish, true⟩
  else
    ⟨opt, size, out, err, none, ((BB.mk [] []).addAll res).1.finish, true⟩

/-! ## emit -/

def ind (n : Nat) : String := "".pushn ' ' (4 * n)
def nl (n : Nat) : String := "\n" ++ ind n
def str (cs : List Char) : String := String.ofList cs
/-- a string literal argument, raw (see header) -/
def lit (cs : List Char) : String := "\"" ++ str cs ++ "\""

/-- `area(indent, a, cnt)`: nested `match` on `partial_cmp` -/
def areaText (cnt : Nat) : Nat → Area → String
  | _, .nil => ""
  | i, .val t l r =>
    if t ≤ 1 then
      nl i ++ s!"match stack.pop(cur).partial_cmp(&Num::from_num({cnt})) \{" ++
      nl (i + 1) ++ "Some(std::cmp::Ordering::" ++ (if t = 0 then "Less" else "Equal") ++ ") => {" ++
      areaText cnt (i + 2) l ++
      nl (i + 1) ++ "}" ++ nl (i + 1) ++ "_ => {" ++
      areaText cnt (i + 2) r ++
      nl (i + 1) ++ "}" ++ nl i ++ "}"
    else if t < 13 then
      nl i ++ s!"let v = *point.entry({cnt * 16 + t}u128).or_insert(state);" ++
      nl i ++ "if v != state {" ++ nl i ++ "    last = Option::Some(state);" ++ nl i ++ "    state = v;" ++
      nl i ++ "    continue;" ++ nl i ++ "}"
    else
      nl i ++ "if let Option::Some(v) = last {" ++ nl i ++ "    state = v;" ++ nl i ++ "    continue;" ++ nl i ++ "}"

/-- `command(indent, c)` -/
def cmdText (i : Nat) (c : Cmd) : String :=
  (match c.kind with
  | 0 => nl i ++ s!"stack.push(cur, Num::from_num({c.hangul * c.dots}));"
  | 1 => nl i ++ "let mut n = Num::zero();" ++ nl i ++ s!"for _ in 0..{c.hangul} \{" ++ nl i ++ "    n += &stack.pop(cur);" ++
         nl i ++ "}" ++ nl i ++ s!"stack.push({c.dots}, n);"
  | 2 => nl i ++ "let mut n = Num::one();" ++ nl i ++ s!"for _ in 0..{c.hangul} \{" ++ nl i ++ "    n *= &stack.pop(cur);" ++
         nl i ++ "}" ++ nl i ++ s!"stack.push({c.dots}, n);"
  | 3 => nl i ++ "let mut n = Num::zero();" ++ nl i ++ s!"let mut v = Vec::with_capacity({c.hangul});" ++
         nl i ++ s!"for _ in 0..{c.hangul} \{" ++ nl i ++ "    v.push(stack.pop(cur));" ++ nl i ++ "}" ++ nl i ++ "v.reverse();" ++
         nl i ++ "for mut x in v {" ++ nl i ++ "    x.minus();" ++ nl i ++ "    n += &x;" ++ nl i ++ "    stack.push(cur, x);" ++
         nl i ++ "}" ++ nl i ++ s!"stack.push({c.dots}, n);"
  | 4 => nl i ++ "let mut n = Num::one();" ++ nl i ++ s!"let mut v = Vec::with_capacity({c.hangul});" ++
         nl i ++ s!"for _ in 0..{c.hangul} \{" ++ nl i ++ "    v.push(stack.pop(cur));" ++ nl i ++ "}" ++ nl i ++ "v.reverse();" ++
         nl i ++ "for mut x in v {" ++ nl i ++ "    x.flip();" ++ nl i ++ "    n *= &x;" ++ nl i ++ "    stack.push(cur, x);" ++
         nl i ++ "}" ++ nl i ++ s!"stack.push({c.dots}, n);"
  | _ => nl i ++ "let n = stack.pop(cur);" ++ nl i ++ s!"for _ in 0..{c.hangul} \{" ++ nl i ++ s!"    stack.push({c.dots}, n.clone());" ++
         nl i ++ "}" ++ nl i ++ "stack.push(cur, n);" ++ nl i ++ s!"cur = {c.dots};") ++
  areaText c.areaCount i c.area

/-- the dispatch over the block index: a binary tree of `if state < mid { … } else { … }` -/
inductive DTree where
  | leaf (block : List Cmd)
  | node (mid : Nat) (l r : DTree)

/-- the tree over the blocks `start … start + size - 1`: halve until one block is left -/
def mkTree (blocks : Array (List Cmd)) : Nat → Nat → Nat → DTree
  | 0, start, _ => .leaf (blocks.getD start [])
  | fuel+1, start, size =>
    if size ≤ 1 then .leaf (blocks.getD start [])
    else .node (size / 2 + start) (mkTree blocks fuel start (size / 2)) (mkTree blocks fuel (start + size / 2) (size - size / 2))

/-- which block the emitted `if` cascade runs when the variable `state` has the given value -/
def DTree.select : DTree → Nat → List Cmd
  | .leaf b, _ => b
  | .node mid l r, st => if st < mid then l.select st else r.select st

def treeText : Nat → DTree → String
  | i, .leaf b => String.join (b.map (cmdText i))
  | i, .node mid l r =>
    nl i ++ s!"if state < {mid} \{" ++ treeText (i + 1) l ++ nl i ++ "} else {" ++ treeText (i + 1) r ++ nl i ++ "}"

def restoreText (r : Restore) (opt : Bool) : String :=
  String.join (r.stacks.map (fun (i, v) =>
    s!"\n    stack.data[{i}] = vec![" ++ String.join (v.map (fun t => lit t ++ ", ")) ++
      "].iter().map(|x| Num::from_string(x.to_string())).collect();")) ++
  s!"\n    cur = {r.cur};" ++
  "\n    last = Option::" ++ (match r.last with | some v => s!"Some({v})" | none => "None") ++ ";" ++
  (if opt then String.join (r.points.map (fun (a, b) => s!"\n    point.insert({a}u128, {b});")) ++
     s!"\n    state = {r.start};" else "")

def emit (p : Prog) : String :=
  (if p.opt then prelude1a ++ toString p.size ++ prelude1b else prelude0) ++
  (if p.out = [] then "" else nl 1 ++ "print!(\"{}\", " ++ lit p.out ++ ");") ++
  (if p.err = [] then "" else nl 1 ++ "eprint!(\"{}\", " ++ lit p.err ++ ");") ++
  (if p.hasCode then
    (match p.restore with | some r => restoreText r p.opt | none => "") ++
    s!"\n    while state < {p.blocks.length} \{" ++
    treeText 2 (mkTree p.blocks.toArray p.blocks.length 0 p.blocks.length) ++
    "\n        state += 1;\n    }"
   else "") ++
  "\n}"

end HyC
