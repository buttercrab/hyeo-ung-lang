import Hyeong.Lemmas.CompBlocks
import Hyeong.Lemmas.Level2Basic
/-!
# the relation between the interpreter and the emitted loop (`Rel`), and its jump part

The emitted heart code is `jump` on block numbers (`irJump_eq`), and `jump` commutes with renumbering the jump targets
by the compiler's table (`jump_bmap`); `jump_sim` puts the two together.
-/
namespace HyC
open HyE HyP
variable {N : Type} [NumOps N]

/-- command index → block index, as the compiler's table says -/
def bmap (bo : List Nat) (v : Nat) : Nat := bo.getD v 0
/-- the label table with its targets renumbered -/
def mapPts (bo : List Nat) (pts : List (Nat × Nat)) : List (Nat × Nat) := pts.map (fun x => (x.1, bmap bo x.2))

/-- `v` is the index of an area-carrying command -/
def AreaPos (p : List Cmd) (v : Nat) : Prop := ∃ h : v < p.length, p[v].area ≠ .nil

/-- every registered label and the return target is the index of an area-carrying command, so the compiler's table
translates it exactly -/
def CtlOk (p : List Cmd) (s : St N) : Prop :=
  (∀ x ∈ s.points, AreaPos p x.2) ∧ (∀ v, s.latest = some v → AreaPos p v)

/-- interpreter configuration `c` ~ configuration `ci` of the compiled loop: `ci` stands at the block that begins at `c`'s
command and has `c`'s state with the jump targets renumbered; `CtlOk` holds of `c` -/
structure Rel (p : List Cmd) (blocks : List (List Cmd)) (bo : List Nat) (c ci : Cfg N) : Prop where
  loc : c.loc = off blocks ci.loc
  le : ci.loc ≤ blocks.length
  m : ci.m = ctlM (mapPts bo c.m.1.points) (c.m.1.latest.map (bmap bo)) c.m
  pts_ok : ∀ x ∈ c.m.1.points, AreaPos p x.2
  lat_ok : ∀ v, c.m.1.latest = some v → AreaPos p v

theorem lookup_mapPts (bo : List Nat) (pts : List (Nat × Nat)) (id : Nat) :
    lookup (mapPts bo pts) id = (lookup pts id).map (bmap bo) := by
  rw [lookup, mapPts, List.find?_map, Option.map_map, lookup, Option.map_map]
  rfl

theorem drop_cons_info {p : List Cmd} {loc : Nat} {c : Cmd} {rest : List Cmd} (h : p.drop loc = c :: rest) :
    p[loc]? = some c ∧ p.drop (loc + 1) = rest ∧ loc < p.length := by
  have hg : p[loc]? = some c := by rw [← List.head?_drop, h]; rfl
  exact ⟨hg, by rw [← List.tail_drop, h]; rfl, (List.getElem?_eq_some_iff.mp hg).1⟩

theorem areaCalc_tag {cnt : Nat} {a : Area} (hok : AreaOk a) {m : M N} {res : Nat × M N} (h : areaCalc m cnt a = .ok res) :
    res.1 = 0 ∨ (2 ≤ res.1 ∧ res.1 ≤ 13) := by
  induction a generalizing m with
  | nil => cases h; exact .inl rfl
  | val t l r ihl ihr =>
    obtain ⟨ht, hl, hr⟩ := hok
    rw [areaCalc_val] at h
    by_cases h1 : t ≤ 1
    · obtain ⟨v, _, h⟩ := Res.andThen_eq_ok ((if_pos h1).symm.trans h)
      generalize (if t = 0 then Ordering.lt else Ordering.eq) = o at h
      split at h
      · exact ihl hl h
      · exact ihr hr h
    · cases (if_neg h1).symm.trans h
      exact .inr ⟨by omega, ht⟩

omit [NumOps N] in
/-- The emitted code tests `t ≤ 1`, `t < 13`, `v ≠ state`; `jump` tests `t ≠ 0`, `t ≠ 13`, `loc ≠ v`: on the tags an area
evaluates to (0, 2…13) these are the same tests. `none`, leaving the block at its end, is going to the next block. -/
theorem irJump_eq (s : St N) (c : Cmd) (k : Nat) {t : Nat} (ht : t = 0 ∨ (2 ≤ t ∧ t ≤ 13)) :
    (irJump s c k t).1 = (jump s c k t).1 ∧ (irJump s c k t).2.getD (k + 1) = (jump s c k t).2 := by
  rcases ht with rfl | ⟨h2, h13⟩
  · exact ⟨rfl, rfl⟩
  have hlo : ¬ t ≤ 1 := Nat.not_le_of_gt h2
  have h0 : t ≠ 0 := fun e => hlo (e ▸ Nat.zero_le 1)
  rw [irJump, if_neg hlo]
  by_cases e : t = 13
  · subst e
    rw [if_neg (Nat.lt_irrefl 13), jump_ret]
    cases s.latest <;> exact ⟨rfl, rfl⟩
  · rw [if_pos (Nat.lt_of_le_of_ne h13 e)]
    dsimp only
    cases hlk : lookup s.points (c.areaCount * 16 + t) with
    | none => rw [jump_new h0 e hlk]; exact ⟨rfl, rfl⟩
    | some v =>
      rw [jump_to h0 e hlk]
      dsimp only
      by_cases hv : v = k
      · subst hv
        rw [if_neg (not_not_intro rfl), if_neg (not_not_intro rfl)]
        exact ⟨rfl, rfl⟩
      · rw [if_pos hv, if_pos (Ne.symm hv)]
        exact ⟨rfl, rfl⟩

/-- `s` as the compiled loop holds it: the jump targets renumbered by the table -/
def bctl (bo : List Nat) (s : St N) : St N := ctl (mapPts bo s.points) (s.latest.map (bmap bo)) s

omit [NumOps N] in
theorem ctlM_bctl (bo : List Nat) (m : M N) :
    ctlM (mapPts bo m.1.points) (m.1.latest.map (bmap bo)) m = (bctl bo m.1, m.2) := rfl

omit [NumOps N] in
/-- `hinj`: the table tells the present location from every other target in use (`Q`). The two cases of the conclusion:
both sides fall through to the next index, or both go to a stored target (it satisfies `Q`), renumbered on the left. -/
theorem jump_bmap {Q : Nat → Prop} (bo : List Nat) {s : St N} (hs : Targets Q s)
    (c : Cmd) {loc : Nat} (t : Nat) (hinj : ∀ v, Q v → bmap bo v = bmap bo loc → v = loc) :
    let j := jump s c loc t
    let jb := jump (bctl bo s) c (bmap bo loc) t
    jb.1 = bctl bo j.1 ∧ ((j.2 = loc + 1 ∧ jb.2 = bmap bo loc + 1) ∨ (Q j.2 ∧ jb.2 = bmap bo j.2)) := by
  dsimp only
  by_cases h0 : t = 0
  · subst h0; exact ⟨rfl, .inl ⟨rfl, rfl⟩⟩
  by_cases h13 : t = 13
  · subst h13
    obtain ⟨st, cur, pts, lat⟩ := s
    cases lat with
    | none => exact ⟨rfl, .inl ⟨rfl, rfl⟩⟩
    | some l => exact ⟨rfl, .inr ⟨hs.2 l rfl, rfl⟩⟩
  have hlk : lookup (bctl bo s).points _ = _ := lookup_mapPts bo s.points (c.areaCount * 16 + t)
  cases hv : lookup s.points (c.areaCount * 16 + t) with
  | none =>
    rw [hv] at hlk
    rw [jump_new h0 h13 hv, jump_new h0 h13 hlk]
    refine ⟨?_, .inl ⟨rfl, rfl⟩⟩
    simp only [bctl, ctl, mapPts, List.map_append, List.map_cons, List.map_nil]
  | some v =>
    rw [hv] at hlk
    obtain ⟨x, hx, rfl⟩ := lookup_mem hv
    rw [jump_to h0 h13 hv, jump_to h0 h13 hlk]
    by_cases e : loc = x.2
    · rw [if_neg (not_not_intro e), if_neg (not_not_intro (congrArg _ e))]
      exact ⟨rfl, .inl ⟨rfl, rfl⟩⟩
    · rw [if_pos e, if_pos fun h => e (hinj _ (hs.1 x hx) h.symm).symm]
      exact ⟨rfl, .inr ⟨hs.1 x hx, rfl⟩⟩

theorem Blocking.single {p : List Cmd} {blocks : List (List Cmd)} {bo : List Nat} (hb : Blocking p blocks bo) {k : Nat}
    (hk : k < blocks.length) {c : Cmd} (hblk : blocks[k] = [c]) : p[off blocks k]? = some c := by
  have hdrop := hb.flat ▸ drop_off blocks k hk
  rw [hblk] at hdrop
  exact (drop_cons_info hdrop).1

omit [NumOps N] in
/-- the jump part of a step keeps `Rel` (`w`: the world, which it does not touch) -/
theorem jump_sim {p : List Cmd} {blocks : List (List Cmd)} {bo : List Nat} (hb : Blocking p blocks bo)
    {s : St N} {c : Cmd} {k t : Nat} (hk : k < blocks.length) (hblk : blocks[k] = [c]) (hca : c.area ≠ .nil)
    (ht : t = 0 ∨ (2 ≤ t ∧ t ≤ 13)) (hs : CtlOk p s) (w : World) :
    let j := jump s c (off blocks k) t
    let ji := irJump (bctl bo s) c k t
    Rel p blocks bo ⟨(j.1, w), j.2⟩ ⟨(ji.1, w), ji.2.getD (k + 1)⟩ := by
  -- the command sits at `off k` in `p`, and the table sends it to `k`
  obtain ⟨hlt, hpc⟩ := List.getElem?_eq_some_iff.mp (hb.single hk hblk)
  have hpos : AreaPos p (off blocks k) := ⟨hlt, hpc ▸ hca⟩
  have hof : ∀ v, AreaPos p v → bmap bo v < blocks.length ∧ off blocks (bmap bo v) = v := fun v ⟨h1, h2⟩ => hb.tbl v h1 h2
  have hself : bmap bo (off blocks k) = k :=
    off_inj blocks hb.nonempty (Nat.le_of_lt (hof _ hpos).1) (Nat.le_of_lt hk) (hof _ hpos).2
  have hnext : off blocks (k + 1) = off blocks k + 1 := by rw [off_succ blocks k hk, hblk]; rfl
  have hi := irJump_eq (bctl bo s) c k ht
  have hj := jump_bmap (Q := AreaPos p) bo hs c t fun v hv e => by rw [← (hof v hv).2, e, (hof _ hpos).2]
  have htg : CtlOk p _ := (Targets.jump (Q := AreaPos p) hs c t fun _ => hpos).1
  rw [hself] at hj
  dsimp only
  rw [hi.2, hi.1, hj.1]
  rcases hj.2 with ⟨e1, e2⟩ | ⟨hq, e2⟩
  · rw [e1, e2]
    exact ⟨hnext.symm, hk, (ctlM_bctl bo (_, w)).symm, htg.1, htg.2⟩
  · rw [e2]
    exact ⟨(hof _ hq).2.symm, Nat.le_of_lt (hof _ hq).1, (ctlM_bctl bo (_, w)).symm, htg.1, htg.2⟩

end HyC
