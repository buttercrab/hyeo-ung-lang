import Hyeong.Lemmas.StepRel
/-!
# the same state in two related worlds

Two instances of `StepRel` for machines that differ only in their worlds: `stepRel_w` for a world relation that also
relates what is read (`WorldSim`; framing by text already written, `frameSim`, is one), and `stepRel_0` for programs that
never select stack 0, where any relation that writing keeps will do (`EmitSim`).
-/
namespace HyE
variable {N : Type} [NumOps N]

structure WorldSim (Rw : World → World → Prop) : Prop where
  emit : ∀ {w w'} (i : Nat) (cs : List Char), Rw w w' → Rw (emit w i cs) (emit w' i cs)
  stdin : ∀ {w w'}, Rw w w' → w.stdin = w'.stdin
  advance : ∀ {w w'} (r : List (List Char)), Rw w w' → Rw { w with stdin := r } { w' with stdin := r }

/-- same value, same state, related worlds -/
def WM (Rw : World → World → Prop) {α : Type} (pw : α → World) (ps : α → St N) (val : α → List N × Nat) (a b : α) : Prop :=
  ps a = ps b ∧ val a = val b ∧ Rw (pw a) (pw b)

/-- results correspond: same stop with related worlds, or corresponding values -/
inductive WRes (Rw : World → World → Prop) {α : Type} (Q : α → α → Prop) : Res α → Res α → Prop
  | ok {a b} : Q a b → WRes Rw Q (.ok a) (.ok b)
  | err {e w w'} : Rw w w' → WRes Rw Q (.error (e, w)) (.error (e, w'))

/-- the same stop in related worlds -/
def StopW (Rw : World → World → Prop) (e e' : Stop × World) : Prop := e.1 = e'.1 ∧ Rw e.2 e'.2

theorem WRes.of {Rw : World → World → Prop} {α : Type} {Q : α → α → Prop} {x y : Res α}
    (h : ResRel (StopW Rw) (fun _ => False) Q x y) : WRes Rw Q x y := by
  cases h with
  | ok hab => exact .ok hab
  | err he =>
    rename_i e e'
    obtain ⟨s, w⟩ := e
    obtain ⟨s', w'⟩ := e'
    cases (he.1 : s = s')
    exact .err he.2
  | top hu => exact hu.elim

def QM (Rw : World → World → Prop) (a b : M N) : Prop := a.1 = b.1 ∧ Rw a.2 b.2

theorem stepRel_w {Rw} (hw : WorldSim Rw) : StepRel (StopW Rw) (fun _ => False) Eq (QM (N := N) Rw) Eq Eq where
  num := .refl N
  pop := by
    rintro a b i _ h rfl
    exact popWrap_lift h (hi := fun _ _ => .rfl) (hs := fun _ => ⟨by rw [h.1], hw.stdin h.2⟩) (stop := fun _ => ⟨rfl, h.2⟩)
      (line := fun _ rest _ _ => ⟨by rw [h.1], hw.advance rest h.2⟩) (raw := fun hab => by rw [hab.1]; exact ⟨rfl, rfl, hab.2⟩)
  push := by
    rintro a b i _ n _ h rfl rfl
    exact pushWrap_lift (hi := fun _ _ => .rfl) (render := .inr rfl) (stop := fun _ => ⟨rfl, h.2⟩)
      (text := fun cs => ⟨h.1, hw.emit i cs h.2⟩) (raw := ⟨by rw [h.1], h.2⟩)
  cur h := by rw [h.1]; exact ⟨rfl, rfl⟩
  select := by rintro a b i _ h rfl _; exact ⟨by rw [h.1], h.2⟩

omit [NumOps N] in
theorem jumpRel_w {Rw} : JumpRel (QM (N := N) Rw) := by
  intro a b h c loc t; rw [h.1]; exact ⟨⟨rfl, h.2⟩, rfl⟩

def QS (Rw : World → World → Prop) (x y : M N × Nat) : Prop := QM Rw x.1 y.1 ∧ x.2 = y.2

theorem stepCmd_w {Rw} (hw : WorldSim Rw) {a b : M N} (h : QM Rw a b) (c : Cmd) (loc : Nat) :
    WRes Rw (QS Rw) (stepCmd a c loc) (stepCmd b c loc) :=
  .of ((stepRel_w hw).stepCmd jumpRel_w h (.same (fun _ => rfl) (fun _ => rfl)) loc)

/-- framing: text already written is carried along unchanged -/
def addPre (a b : List Char) (w : World) : World := { w with out := a ++ w.out, err := b ++ w.err }

theorem frameSim (a b : List Char) : WorldSim (fun w w' => w' = addPre a b w) where
  emit := by
    intro w w' i cs h
    subst h
    simp only [emit, addPre]
    split <;> simp
  stdin := by intro w w' h; subst h; rfl
  advance := by intro w w' r h; subst h; rfl

variable {Rw : World → World → Prop}

/-! ### input-free programs -/

/-- a command of an input-free program: it never selects stack 0 -/
def NoIn (c : Cmd) : Prop := 5 ≤ c.kind → c.dots ≠ 0

/-- same state, never on stack 0, related worlds -/
def Q0 (Rw : World → World → Prop) (a b : M N) : Prop := a.1 = b.1 ∧ a.1.cur ≠ 0 ∧ Rw a.2 b.2

/-- writing the same text to both worlds keeps the relation (nothing is ever read) -/
def EmitSim (Rw : World → World → Prop) : Prop := ∀ {w w'} (i : Nat) (cs : List Char), Rw w w' → Rw (emit w i cs) (emit w' i cs)

theorem stepRel_0 (hw : EmitSim Rw) :
    StepRel (StopW Rw) (fun _ => False) Eq (Q0 (N := N) Rw) (fun i i' => i = i' ∧ i ≠ 0) Eq where
  num := .refl N
  pop := by
    rintro a b i _ h ⟨rfl, hi⟩
    exact popWrap_lift h (hi := fun _ _ => .rfl) (hs := fun h0 => absurd h0 hi) (stop := fun _ => ⟨rfl, h.2.2⟩)
      (line := fun _ _ h0 _ => absurd h0 hi)
      (raw := fun hab => by rw [← hab.1]; exact ⟨rfl, rfl, by rw [popRaw_cur]; exact hab.2.1, hab.2.2⟩)
  push := by
    rintro a b i _ n _ h rfl rfl
    exact pushWrap_lift (hi := fun _ _ => .rfl) (render := .inr rfl) (stop := fun _ => ⟨rfl, h.2.2⟩)
      (text := fun cs => ⟨h.1, h.2.1, hw i cs h.2.2⟩) (raw := ⟨by rw [h.1], by rw [pushRaw_cur]; exact h.2.1, h.2.2⟩)
  cur h := ⟨⟨by rw [h.1], h.2.1⟩, by rw [h.1]⟩
  select := by rintro a b i _ h ⟨rfl, hi⟩ _; exact ⟨by rw [h.1], hi, h.2.2⟩

omit [NumOps N] in
theorem jumpRel_0 : JumpRel (Q0 (N := N) Rw) := by
  intro a b h c loc t
  rw [← h.1]
  exact ⟨⟨rfl, by rw [(jump_frame a.1 c loc t).2]; exact h.2.1, h.2.2⟩, rfl⟩

theorem NoIn.cmdI {c : Cmd} (hc : NoIn c) : CmdI (fun i i' => i = i' ∧ i ≠ 0) Eq c c :=
  .same (fun _ => rfl) (fun h => ⟨rfl, hc h⟩)

theorem stepCmd_0 (hw : EmitSim Rw) {a b : M N} (h : Q0 Rw a b) (c : Cmd) (hc : NoIn c) (loc : Nat) :
    ResRel (StopW Rw) (fun _ => False) (fun x y => Q0 Rw x.1 y.1 ∧ x.2 = y.2) (stepCmd a c loc) (stepCmd b c loc) :=
  (stepRel_0 hw).stepCmd jumpRel_0 h hc.cmdI loc

end HyE
