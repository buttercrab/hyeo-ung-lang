import Hyeong.Lemmas.NumProof
import Hyeong.Lemmas.StepRules
import Hyeong.Model.ExecNum
/-!
# text on standard input and characters as numbers: what the programs of C14 read and write
-/
namespace HyE
open HyN

/-- the number a character is read as -/
def charNum (c : Char) : NumI := fromNum c.toNat

theorem lineStack_eq (l : List Char) : (lineStack l : List NumI) = l.map charNum := rfl

theorem charNum_isNan (c : Char) : NumOps.isNan (charNum c) = false := rfl

theorem add_zero_charNum (c : Char) : HyN.add HyN.zero (charNum c) = charNum c := HyN.zero_add (canon_fromNum _).1

theorem char_isScalar (c : Char) : isScalar c.toNat = true := by
  have h := c.valid
  simp only [isScalar, Bool.or_eq_true, decide_eq_true_eq, Bool.and_eq_true]
  rcases h with h | h
  · left; exact h
  · right; exact ⟨h.1, h.2⟩

theorem render_charNum (c : Char) : renderNumI (charNum c) = .text [c] := by
  have hlt : c.toNat < 4294967296 := by
    have h := c.valid
    rcases h with h | h
    · have : c.toNat < 0xD800 := h; omega
    · have : c.toNat < 0x110000 := h.2; omega
  unfold renderNumI
  have hp : isPos (charNum c) = true := by simp [isPos, isPosI, charNum, fromNum, isNan]
  have hf : HyN.floor (charNum c) = c.toNat := by simp [HyN.floor, charNum, fromNum]
  simp only [hp, ↓reduceIte, hf, Int.toNat_natCast, Nat.mod_eq_of_lt hlt, char_isScalar c]
  simp [Char.ofNat_toNat]

/-- `항` with one operand adds it to zero first -/
theorem render_add_charNum (c : Char) : NumOps.render (HyN.add HyN.zero (charNum c)) = .text [c] := by
  rw [add_zero_charNum]; exact render_charNum c

theorem eof_iff_nan (s : St NumI) (w : World) (hlines : ∀ l ∈ w.stdin, l ≠ [])
    (hst : ∀ x ∈ s.stacks 0, isNan x = false) (x : NumI) (m' : M NumI)
    (h : popWrap (s, w) 0 = .ok (x, m')) :
    isNan x = true ↔ (s.stacks 0 = [] ∧ w.stdin = []) := by
  cases hs : s.stacks 0 with
  | cons y ys =>
    rw [pop0_cons hs] at h
    cases h
    simp [hst x (by simp [hs])]
  | nil =>
    cases hin : w.stdin with
    | nil =>
      rw [pop0_eof hs hin] at h
      cases h
      simp [show isNan (NumOps.nan : NumI) = true from rfl]
    | cons line rest =>
      cases line with
      | nil => exact absurd rfl (hlines [] (by simp [hin]))
      | cons c cs =>
        rw [pop0_line hs hin] at h
        cases h
        simp [show isNan (NumOps.ofNat c.toNat : NumI) = false from charNum_isNan c]

/-- an empty list in `stdin` stands for a line that is not UTF-8; `hlines` excludes it -/
theorem pop0_total {N : Type} [NumOps N] (s : St N) (w : World) (hlines : ∀ l ∈ w.stdin, l ≠ []) : ∃ x m', popWrap (s, w) 0 = .ok (x, m') := by
  cases hs : s.stacks 0 with
  | cons y ys => exact ⟨_, _, pop0_cons hs⟩
  | nil =>
    cases hin : w.stdin with
    | nil => exact ⟨_, _, pop0_eof hs hin⟩
    | cons line rest =>
      cases line with
      | nil => exact absurd rfl (hlines [] (by simp [hin]))
      | cons c cs => exact ⟨_, _, pop0_line hs hin⟩

theorem pop0_undecodable (s : St NumI) (w : World) (rest : List (List Char)) (hs : s.stacks 0 = []) (hw : w.stdin = [] :: rest) :
    popWrap (s, w) 0 = .error (.inputErr, w) :=
  pop0_inputErr hs hw

end HyE
