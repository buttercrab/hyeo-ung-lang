import Hyeong.Lemmas.IncRel
/-!
# an input-free program entered in chunks (the lines of a session) writes what its whole run writes
-/
namespace HyE
variable {N : Type} [NumOps N]

/-- what an interactive session does with the command lists of successive lines: each runs from the state the previous one
left, with empty output buffers and its own view `r` of the remaining standard input; the two buffers are collected per line -/
def runChunks (fuel : Nat) : List Cmd → St N → List (List Cmd × List (List Char)) →
    Option (List (List Char × List Char) × List Cmd × St N)
  | pre, s, [] => some ([], pre, s)
  | pre, s, (cs, r) :: rest =>
    match executeAll fuel pre (s, ⟨r, [], []⟩) cs with
    | some (.ok (code, m)) =>
      match runChunks fuel code m.1 rest with
      | some x => some ((m.2.out, m.2.err) :: x.1, x.2)
      | none => none
    | _ => none

def flat (chunks : List (List Cmd × List (List Char))) : List Cmd := (chunks.map (·.1)).flatten

/-- An input-free run splits off its first chunk `cs`, run from a fresh world with whatever input `r`: a stop of the chunk is
the stop of the whole run; otherwise the whole run goes on from the chunk's state, with the chunk's text appended. -/
theorem executeAll_chunk {fuel : Nat} {pre cs rest : List Cmd} {s : St N} {r0 : List (List Char)} {O E : List Char}
    {res : Res (List Cmd × M N)} (r : List (List Char)) (hg : ∀ x ∈ pre ++ cs, NoIn x) (hcur : s.cur ≠ 0)
    (h : executeAll fuel pre (s, ⟨r0, O, E⟩) (cs ++ rest) = some res) :
    (∃ e w, executeAll fuel pre (s, ⟨r, [], []⟩) cs = some (.error (e, w)) ∧
      res = .error (e, ⟨r0, O ++ w.out, E ++ w.err⟩)) ∨
    (∃ m, executeAll fuel pre (s, ⟨r, [], []⟩) cs = some (.ok (pre ++ cs, m)) ∧ m.1.cur ≠ 0 ∧ m.2.stdin = r ∧
      executeAll fuel (pre ++ cs) (m.1, ⟨r0, O ++ m.2.out, E ++ m.2.err⟩) rest = some res) := by
  rw [executeAll_append] at h
  have hq : Q0 (W0 O E r0 r) (s, ⟨r0, O, E⟩) (s, ⟨r, [], []⟩) := ⟨rfl, hcur, by simp only [List.append_nil], rfl⟩
  have hni := executeAll_noinput fuel hg hq
  have hends := executeAll_ends fuel cs pre (s, ⟨r, [], []⟩)
  generalize executeAll fuel pre (s, ⟨r0, O, E⟩) cs = A at h hni
  generalize executeAll fuel pre (s, ⟨r, [], []⟩) cs = C at hni hends
  cases hni with
  | none => cases h
  | some hr =>
    cases hr with
    | top hu => exact hu.elim
    | @err ea ec he =>
      obtain ⟨ea, wa⟩ := ea
      obtain ⟨e, w⟩ := ec
      obtain ⟨(rfl : ea = e), (rfl : wa = _), _⟩ := he
      cases h
      exact .inl ⟨ea, w, rfl, rfl⟩
    | @ok a c hq =>
      obtain ⟨codeA, sa, wa⟩ := a
      obtain ⟨code, m⟩ := c
      obtain ⟨(rfl : codeA = code), (rfl : sa = m.1), hcur', (rfl : wa = _), hs⟩ := hq
      cases hends
      exact .inr ⟨m, rfl, hcur', hs, h⟩

theorem chunks_eq_whole (fuel : Nat) : ∀ (chunks : List (List Cmd × List (List Char))) (pre : List Cmd) (s : St N)
    (r0 : List (List Char)) (O E : List Char) (code : List Cmd) (m : M N),
    (∀ x ∈ pre ++ flat chunks, NoIn x) → s.cur ≠ 0 →
    executeAll fuel pre (s, ⟨r0, O, E⟩) (flat chunks) = some (.ok (code, m)) →
    ∃ outs, runChunks fuel pre s chunks = some (outs, code, m.1) ∧
      m.2.out = O ++ (outs.map (·.1)).flatten ∧ m.2.err = E ++ (outs.map (·.2)).flatten := by
  intro chunks
  induction chunks with
  | nil =>
    intro pre s r0 O E code m _ _ h
    cases h
    exact ⟨[], rfl, (List.append_nil O).symm, (List.append_nil E).symm⟩
  | cons ch rest ih =>
    intro pre s r0 O E code m hg hcur h
    obtain ⟨cs, r⟩ := ch
    have hflat : flat ((cs, r) :: rest) = cs ++ flat rest := rfl
    rw [hflat] at h hg
    rcases executeAll_chunk r (fun x hx => hg x (by rw [← List.append_assoc]; exact List.mem_append_left _ hx)) hcur h
      with ⟨_, _, _, hres⟩ | ⟨m1, hC, hcur1, _, h1⟩
    · cases hres
    · obtain ⟨outs, hrun, ho, he⟩ := ih (pre ++ cs) m1.1 r0 _ _ code m (by rw [List.append_assoc]; exact hg) hcur1 h1
      refine ⟨(m1.2.out, m1.2.err) :: outs, ?_, ?_, ?_⟩
      · simp only [runChunks, hC, hrun]
      · rw [ho, List.append_assoc]; rfl
      · rw [he, List.append_assoc]; rfl

end HyE
