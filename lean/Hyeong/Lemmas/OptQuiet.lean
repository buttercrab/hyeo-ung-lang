import Hyeong.Lemmas.Level2Prefix
import Hyeong.Lemmas.ExecPost
/-!
# C10: pre-execution performs none of the program's effects

The guards of `opt_execute` let a command through only if all its pops are from stacks above 2; such a command neither
reads input nor exits (`quiet_carried`, an instance of the postcondition calculus), and so neither do the loops.
-/
namespace HyE
open HyP (Area)
variable {N : Type} [NumOps N]

/-- a result that neither consumed input nor asked the process to exit -/
def Quiet (stdin : List (List Char)) {α : Type} (proj : α → World) (r : Res α) : Prop :=
  match r with
  | .ok a => (proj a).stdin = stdin
  | .error (e, w) => (∀ c, e ≠ .exit c) ∧ w.stdin = stdin

/-- the stops of a quiet result -/
def QuietStop (stdin : List (List Char)) (e : Stop × World) : Prop := (∀ c, e.1 ≠ .exit c) ∧ e.2.stdin = stdin

theorem Quiet.of_post {stdin : List (List Char)} {α : Type} {proj : α → World} {r : Res α}
    (h : r.Post (fun a => (proj a).stdin = stdin) (QuietStop stdin)) : Quiet stdin proj r := by
  cases r with
  | ok a => exact h
  | error e => exact h

/-- Neither primitive changes the selected stack, so a property `C` of it is kept as long as only stacks with `C` are
selected. -/
theorem quiet_carried (stdin : List (List Char)) (C : Nat → Prop) :
    Carried (N := N) (fun m => m.2.stdin = stdin ∧ C m.1.cur) (QuietStop stdin) (· > 2) C where
  push := fun {m i} n h _ => pushWrap_post (I := fun m => m.2.stdin = stdin ∧ C m.1.cur) n
    (stop := fun | _, .enc _ => ⟨nofun, h.1⟩ | _, .unspec _ => ⟨nofun, h.1⟩)
    (text := fun cs => ⟨by rw [emit]; split <;> exact h.1, h.2⟩) (raw := ⟨h.1, by rw [pushRaw_cur]; exact h.2⟩)
  pop := by
    intro m i h hi
    rw [popWrap_plain hi]
    exact ⟨h.1, by rw [popRaw_cur]; exact h.2⟩
  select h hd := ⟨h.1, hd⟩

omit [NumOps N] in
theorem cmdGuard_cur (s : St N) (c : Cmd) (hg : cmdGuard s c = true) (hk : c.kind ≠ 0) (hh : 1 ≤ c.hangul) : s.cur > 2 := by
  unfold cmdGuard at hg
  simp only [hk, ↓reduceIte] at hg
  by_cases h4 : c.kind ≤ 4
  · simp only [h4, ↓reduceIte, Bool.or_eq_true, decide_eq_true_eq] at hg
    omega
  · simp only [h4, ↓reduceIte, decide_eq_true_eq] at hg
    exact hg

theorem execCmd_quiet (m : M N) (c : Cmd) (hg : cmdGuard m.1 c = true) (hh : 1 ≤ c.hangul) :
    Quiet m.2.stdin (fun x : M N => x.2) (execCmd m c) :=
  .of_post (((quiet_carried m.2.stdin fun _ => True).execCmd c ⟨rfl, trivial⟩ trivial
    (fun hk => cmdGuard_cur m.1 c hg hk hh) fun _ => trivial).mono (fun _ h => h.1) fun _ h => h)

/-- the guard looks at the selected stack, which the pops do not change: hence `C := (· > 2)` -/
theorem areaCalc_quiet (cnt : Nat) (ar : Area) (m : M N) (hg : areaGuard m.1 ar = true) :
    Quiet m.2.stdin (fun x : Nat × M N => x.2.2) (areaCalc m cnt ar) := by
  cases ar with
  | nil => rfl
  | val t l r =>
    by_cases ht : t ≤ 1
    · have hc : m.1.cur > 2 := by simpa [areaGuard, ht] using hg
      exact .of_post (((quiet_carried m.2.stdin (· > 2)).areaCalc (fun _ h => h.2) cnt _ ⟨rfl, hc⟩).mono
        (fun _ h => h.1) fun _ h => h)
    · rw [area_heart (by omega) (by omega)]
      rfl

theorem optLoop_quiet (budget : Nat) (p : List Cmd) (hh : ∀ c ∈ p, 1 ≤ c.hangul) (k fuel : Nat) (m : M N) (loc cnt : Nat) :
    match optLoop budget p k fuel m loc cnt with
    | .done m' => m'.2.stdin = m.2.stdin
    | .bail => True
    | .stop e => ∀ c, e ≠ .exit c := by
  have := optLoop_inv budget p k (fun c => c.m.2.stdin = m.2.stdin)
    (fun c cmd m1 r hI hget _ hg he hg2 ha => by
      have q1 := execCmd_quiet c.m cmd hg (hh cmd (List.mem_of_getElem? hget))
      have q2 := areaCalc_quiet cmd.areaCount cmd.area m1 hg2
      rw [he] at q1; rw [ha] at q2
      exact (q2.trans q1).trans hI)
    fuel m loc cnt rfl
  generalize optLoop budget p k fuel m loc cnt = out at this ⊢
  cases out with
  | done m' =>
    obtain ⟨_, h, _⟩ := this
    exact h
  | bail => trivial
  | stop e =>
    obtain ⟨c, cmd, w, _, _, hget, hg, he⟩ := this
    have q := execCmd_quiet c.m cmd hg (hh cmd (List.mem_of_getElem? hget))
    rw [he] at q
    exact q.1

theorem optimize2Loop_quiet (budget : Nat) (p : List Cmd) (hh : ∀ c ∈ p, 1 ≤ c.hangul) (n k : Nat) (m : M N) :
    match optimize2Loop budget p n k m with
    | .ok r => r.m.2.stdin = m.2.stdin
    | .error e => ∀ c, e ≠ .exit c := by
  have hq := fun k => optLoop_quiet (N := N) budget (p.take (k + 1)) (fun c hc => hh c (List.mem_of_mem_take hc)) k (optFuel budget k)
  have := optimize2Loop_inv budget p (fun _ m' => m'.2.stdin = m.2.stdin)
    (fun k m1 m2 _ hI ho => by have := hq k m1 k 0; rw [ho] at this; exact this.trans hI) n k m rfl
  generalize optimize2Loop budget p n k m = out at this ⊢
  cases out with
  | ok r => exact this
  | error e =>
    obtain ⟨k', m', _, _, ho⟩ := this
    have := hq k' m' k' 0
    rw [ho] at this
    exact this

theorem optimize_quiet (budget level : Nat) (p : List Cmd) (hh : ∀ c ∈ p, 1 ≤ c.hangul) (w : World) :
    match optimize (N := N) budget level p w with
    | .ok (_, _, r) => r.m.2.stdin = w.stdin
    | .error e => ∀ c, e ≠ .exit c := by
  have hq := optimize2Loop_quiet (N := N) budget (optimize1 p).1 (optimize1_forall (fun _ _ h => h) hh) (optimize1 p).1.length 0 (St.init, w)
  split
  · rename_i code size r h
    obtain ⟨rfl, _, hr⟩ := optimize_ok h
    split at hr
    · rw [hr] at hq; exact hq
    · rw [hr]
  · rename_i e h
    rw [optimize_error h] at hq
    exact hq

end HyE
