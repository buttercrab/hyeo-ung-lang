import Hyeong.Lemmas.CompRun
import Hyeong.Lemmas.CompLevel2
/-!
# entering the compiled loop at each level (`entry_plain`, `entry_level2`) and running from there (`Prog.run_sim`);
the dispatch tree (`select_mkTree`)
-/
namespace HyC
open HyE HyN

theorem select_mkTree (blocks : Array (List Cmd)) : ∀ (fuel start size st : Nat), size ≤ fuel → start ≤ st → st < start + size →
    (mkTree blocks fuel start size).select st = blocks.getD st [] := by
  intro fuel
  induction fuel with
  | zero =>
    intro start size st h1 h2 h3
    cases Nat.le_zero.mp h1
    exact absurd h3 (Nat.not_lt.mpr h2)
  | succ fuel ih =>
    intro start size st h1 h2 h3
    show (if size ≤ 1 then DTree.leaf _ else .node _ _ _).select st = _
    by_cases hs : size ≤ 1
    · rw [if_pos hs]
      have : st ≤ start := Nat.le_of_lt_succ (Nat.lt_of_lt_of_le h3 (Nat.add_le_add_left hs start))
      exact congrArg (blocks.getD · []) (Nat.le_antisymm h2 this)
    · rw [if_neg hs]
      have hs : 1 < size := Nat.lt_of_not_le hs
      -- of the half only `0 < size / 2 < size` matters
      have h0 : 0 < size / 2 := Nat.div_pos hs Nat.zero_lt_two
      have hlt : size / 2 < size := Nat.div_lt_self (Nat.zero_lt_of_lt hs) Nat.one_lt_two
      generalize size / 2 = h at h0 hlt ⊢
      by_cases hst : st < h + start
      · exact (if_pos hst).trans
          (ih start h st (Nat.le_of_lt_succ (Nat.lt_of_lt_of_le hlt h1)) h2 (Nat.add_comm h start ▸ hst))
      · refine (if_neg hst).trans (ih (start + h) (size - h) st ?_ (Nat.add_comm h start ▸ Nat.le_of_not_lt hst) ?_)
        · exact Nat.le_of_lt_succ (Nat.lt_of_lt_of_le (Nat.sub_lt (Nat.zero_lt_of_lt hlt) h0) h1)
        · rw [Nat.add_assoc, Nat.add_sub_of_le (Nat.le_of_lt hlt)]
          exact h3

/-- levels 0 and 1: no pre-executed prefix -/
theorem entry_plain (level size : Nat) (hl : ¬ level ≥ 2) (code : List Cmd) (hne : code ≠ []) (input : List Char) :
    let pr := compile level size [] (St.init : St NumI) (List.range size) [] [] code
    pr.hasCode = true ∧ pr.entry input = some ⟨(St.init, ⟨splitLines input, [], []⟩), 0⟩ ∧
    Blocking code pr.blocks ((BB.mk [] []).addAll code).2 ∧
    Rel code pr.blocks ((BB.mk [] []).addAll code).2 (⟨(St.init, ⟨splitLines input, [], []⟩), 0⟩ : Cfg NumI) ⟨(St.init, ⟨splitLines input, [], []⟩), 0⟩ := by
  intro pr
  have e : pr = ⟨level ≠ 0, size, [], [], none, ((BB.mk [] []).addAll code).1.finish, true⟩ := by
    simp only [pr, compile, hne, hl, ↓reduceIte]
  rw [e]
  exact ⟨rfl, rfl, (BInv.init.addAll code).finish, (off_zero _).symm, Nat.zero_le _, rfl, nofun, nofun⟩

/-- level 2: the loop is entered with the stacks the prelude re-parses from their printed texts; `cm` is the interpreter's
configuration `⟨(s, w), idx⟩` over those stacks, `NE`-related to the real one and not equal to it -/
theorem entry_level2 (level size : Nat) (hl : level ≥ 2) (code : List Cmd) (s : St NumI) (w : World) (idx : Nat)
    (hidx : idx ≤ code.length) (hlt : InvLt idx s) (hctl : CtlOk code s) (hsupp : Supp size s)
    (hv : ∀ i, LR NE (s.stacks i) (s.stacks i)) (hres : code.drop idx ≠ []) (input : List Char) (hw : w.stdin = splitLines input) :
    let pr := compile level size (code.take idx) s (List.range size) w.out w.err (code.drop idx)
    pr.hasCode = true ∧ ∃ ci cm bo, pr.entry input = some ci ∧ Blocking code pr.blocks bo ∧ Rel code pr.blocks bo cm ci ∧
      RCfg NE cm ⟨(s, w), idx⟩ := by
  intro pr
  let b1 := (BB.mk [] []).addAll (code.take idx)
  let b2 := b1.1.fresh
  let b3 := b2.addAll (code.drop idx)
  have i1 : BInv b1.1 (code.take idx) b1.2 := BInv.init.addAll _
  obtain ⟨i2, -, hoff2⟩ := i1.fresh
  have hb : Blocking code b3.1.finish (b1.2 ++ b3.2) :=
    List.take_append_drop idx code ▸ (i2.addAll (code.drop idx)).finish
  have hlen1 : b1.2.length = idx := i1.len.trans (List.length_take_of_le hidx)
  -- the blocks of the prefix stay in front, so the first residual block starts at command `idx`
  have hpre : b2.done <+: b3.1.finish := (addAll_done _ b2).trans (finish_done _)
  have hstart : off b3.1.finish b2.done.length = idx := by
    obtain ⟨ex, hex⟩ := hpre
    rw [← hex, off_append_le _ _ _ (Nat.le_refl _), hoff2, List.length_take_of_le hidx]
  -- below `idx` the table is that of the prefix
  have hmap : ∀ v, v < idx → bmap (b1.2 ++ b3.2) v = b1.2.getD v 0 := fun v hv => getD_append_left _ _ _ (hlen1 ▸ hv)
  let R0 : Restore := ⟨stackTexts size s, s.cur, s.latest.map (b1.2.getD · 0), s.points.map fun p => (p.1, b1.2.getD p.2 0), b2.done.length⟩
  have hro : R0.parses = true ∧ ∀ i, LR NE (R0.stackAt i) (s.stacks i) := restore_ok size s hsupp hv _ _ _ _
  have e : pr = ⟨level ≠ 0, size, w.out, w.err, some R0, b3.1.finish, true⟩ := by
    simp only [pr, compile, hres, hl, ↓reduceIte]
    rfl
  have e1 : R0.points = mapPts (b1.2 ++ b3.2) s.points := List.map_congr_left fun x hx => by rw [hmap x.2 (hlt.1 x hx)]
  have e2 : R0.last = s.latest.map (bmap (b1.2 ++ b3.2)) := Option.map_congr fun l hl => (hmap l (hlt.2 l hl)).symm
  rw [e]
  refine ⟨rfl, ⟨(⟨R0.stackAt, s.cur, R0.points, R0.last⟩, ⟨splitLines input, w.out, w.err⟩), b2.done.length⟩,
    ⟨(⟨R0.stackAt, s.cur, s.points, s.latest⟩, ⟨splitLines input, w.out, w.err⟩), idx⟩, b1.2 ++ b3.2, ?_, hb,
    ⟨hstart.symm, hpre.length_le, ?_, hctl.1, hctl.2⟩, ⟨⟨rfl, rfl, rfl, hro.2⟩, hw ▸ rfl⟩, rfl⟩
  · simp only [Prog.entry, hro.1, ↓reduceIte]
    rfl
  · rw [e1, e2]
    rfl

theorem Prog.run_sim {pr : Prog} {input : List Char} {code : List Cmd} {bo : List Nat} {ci cm : Cfg NumI}
    (hc : pr.hasCode = true) (he : pr.entry input = some ci) (hb : Blocking code pr.blocks bo)
    (hok : ∀ c ∈ code, AreaOk c.area) (hr : Rel code pr.blocks bo cm ci) (k : Nat) :
    ∃ n, k ≤ n ∧ pr.run input k = some (seen (runN code n cm)) := by
  obtain ⟨n, hn, hs⟩ := irRunN_sim hb hok k hr
  exact ⟨n, hn, by simp only [Prog.run, hc, ↓reduceIte, he, Option.map_some, hs]⟩

end HyC
