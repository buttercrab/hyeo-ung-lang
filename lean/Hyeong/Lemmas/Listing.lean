import Hyeong.Spec.Render
import Hyeong.Lemmas.ParseProof
import Hyeong.Model.Cli
/-! The listing of `hyeong check`: a line determines the command (`listing_injective`), for the areas
`check` prints faithfully (`DispOk`), and these are all the areas the parser produces (`parsed_area_dispOk`). -/
namespace HyE
open HyP

/-- area trees `check` can print faithfully: `?`/`!` nodes, and hearts as leaves (what the grammar produces) -/
def DispOk : Area → Prop
  | .nil => True
  | .val t l r => (t ≤ 1 ∧ DispOk l ∧ DispOk r) ∨ (2 ≤ t ∧ t < 14 ∧ l = .nil ∧ r = .nil)

theorem areaChar_ne_blank : ∀ t, t < 14 → areaChars.getD t '?' ≠ '_' := by decide +kernel

theorem areaChar_ne_bracket : ∀ t, t < 14 → 2 ≤ t → areaChars.getD t '?' ≠ '[' := by decide +kernel

/-- a lookup that `idxOf` undoes is injective -/
theorem getD_inj {l : List Char} {n : Nat} (h : ∀ t, t < n → l.idxOf (l.getD t '?') = t) :
    ∀ t, t < n → ∀ t', t' < n → l.getD t '?' = l.getD t' '?' → t = t' :=
  fun t ht t' ht' e => (h t ht).symm.trans ((congrArg l.idxOf e).trans (h t' ht'))

theorem areaChar_inj : ∀ t, t < 14 → ∀ t', t' < 14 → areaChars.getD t '?' = areaChars.getD t' '?' → t = t' :=
  getD_inj (by decide +kernel)

theorem split_at_sep (sep : Char) (a b x y : List Char) (ha : sep ∉ a) (hb : sep ∉ b) (h : a ++ sep :: x = b ++ sep :: y) :
    a = b ∧ x = y := by
  -- one of `a`, `b` is the other followed by `d`; a nonempty `d` would begin with `sep`
  rcases List.append_eq_append_iff.mp h with ⟨d, rfl, h'⟩ | ⟨d, rfl, h'⟩ <;> cases d with
  | nil => simpa [eq_comm] using h'
  | cons z zs =>
    obtain rfl : sep = z := by simpa using congrArg List.head? h'
    simp at ha hb

theorem disp_nil (ra : List Char) : areaDisplay .nil ++ ra = '_' :: ra := rfl

theorem disp_op {t : Nat} (ht : t ≤ 1) (l r : Area) (ra : List Char) :
    areaDisplay (.val t l r) ++ ra =
      '[' :: (areaDisplay l ++ ']' :: areaChars.getD t '?' :: '[' :: (areaDisplay r ++ ']' :: ra)) := by
  simp [areaDisplay, ht]

theorem disp_leaf {t : Nat} (ht : 2 ≤ t) (l r : Area) (ra : List Char) :
    areaDisplay (.val t l r) ++ ra = areaChars.getD t '?' :: ra := by
  simp [areaDisplay, show ¬ t ≤ 1 by omega]

/-- the first character tells the shape: `_`, `[`, or a heart -/
theorem areaDisplay_inj : ∀ (a b : Area) (ra rb : List Char), DispOk a → DispOk b →
    areaDisplay a ++ ra = areaDisplay b ++ rb → a = b ∧ ra = rb := by
  intro a
  induction a with
  | nil =>
    intro b ra rb _ hb h
    rw [disp_nil] at h
    cases b with
    | nil => exact ⟨rfl, (List.cons.inj h).2⟩
    | val t l r =>
      rcases hb with ⟨ht, -⟩ | ⟨ht, ht2, -⟩
      · rw [disp_op ht] at h; cases (List.cons.inj h).1
      · rw [disp_leaf ht] at h; exact absurd (List.cons.inj h).1.symm (areaChar_ne_blank t ht2)
  | val t l r ihl ihr =>
    intro b ra rb ha hb h
    rcases ha with ⟨ht, hl, hr⟩ | ⟨ht, ht2, rfl, rfl⟩
    · rw [disp_op ht] at h
      cases b with
      | nil => rw [disp_nil] at h; cases (List.cons.inj h).1
      | val t' l' r' =>
        rcases hb with ⟨ht', hl', hr'⟩ | ⟨ht', ht2', -⟩
        · rw [disp_op ht'] at h
          obtain ⟨rfl, h1⟩ := ihl l' _ _ hl hl' (List.cons.inj h).2
          obtain ⟨hop, h2⟩ := List.cons.inj (List.cons.inj h1).2
          obtain rfl := areaChar_inj t (Nat.lt_of_le_of_lt ht (by decide)) t' (Nat.lt_of_le_of_lt ht' (by decide)) hop
          obtain ⟨rfl, h3⟩ := ihr r' _ _ hr hr' (List.cons.inj h2).2
          exact ⟨rfl, (List.cons.inj h3).2⟩
        · rw [disp_leaf ht'] at h; exact absurd (List.cons.inj h).1.symm (areaChar_ne_bracket t' ht2' ht')
    · rw [disp_leaf ht] at h
      cases b with
      | nil => rw [disp_nil] at h; exact absurd (List.cons.inj h).1 (areaChar_ne_blank t ht2)
      | val t' l' r' =>
        rcases hb with ⟨ht', -⟩ | ⟨ht', ht2', rfl, rfl⟩
        · rw [disp_op ht'] at h; exact absurd (List.cons.inj h).1 (areaChar_ne_bracket t ht2 ht)
        · rw [disp_leaf ht'] at h
          obtain rfl := areaChar_inj t ht2 t' ht2' (List.cons.inj h).1
          exact ⟨rfl, (List.cons.inj h).2⟩

theorem natStr_digits (n : Nat) : ∀ c ∈ natStr n, c.isDigit = true := by
  intro c hc
  simp only [natStr, Nat.toString_eq_repr, Nat.toList_repr] at hc
  exact Nat.isDigit_of_mem_toDigits (by omega) (by omega) hc

theorem natStr_inj (a b : Nat) (h : natStr a = natStr b) : a = b := by
  simp only [natStr, Nat.toString_eq_repr, Nat.toList_repr] at h
  simpa [Nat.ofDigitChars_ten_toDigits] using congrArg (fun l => Nat.ofDigitChars 10 l 0) h

theorem kindChar_inj : ∀ k, k < 6 → ∀ k', k' < 6 → kindChars.getD k '?' = kindChars.getD k' '?' → k = k' :=
  getD_inj (by decide +kernel)

/-- C08, third clause: the line `check` prints (`KIND_h_d AREA`) determines the command. -/
theorem listing_injective (c1 c2 : PCmd) (h1 : c1.kind < 6) (h2 : c2.kind < 6) (a1 : DispOk c1.area) (a2 : DispOk c2.area)
    (h : checkLine c1 = checkLine c2) : c1.strip = c2.strip := by
  simp only [checkLine, List.cons_append, List.nil_append, List.append_assoc, List.cons.injEq] at h
  -- the two numbers end at the first `_` and the first blank: a number has neither
  have nd : ∀ n, '_' ∉ natStr n := fun n hh => by simpa using natStr_digits n _ hh
  have ns : ∀ n, ' ' ∉ natStr n := fun n hh => by simpa using natStr_digits n _ hh
  obtain ⟨e1, hr1⟩ := split_at_sep '_' _ _ _ _ (nd _) (nd _) h.2.2
  obtain ⟨e2, hr2⟩ := split_at_sep ' ' _ _ _ _ (ns _) (ns _) hr1
  obtain ⟨e3, -⟩ := areaDisplay_inj _ _ [] [] a1 a2 (by simpa using hr2)
  simp only [PCmd.strip, SCmd.mk.injEq]
  exact ⟨kindChar_inj _ h1 _ h2 h.1, natStr_inj _ _ e1, natStr_inj _ _ e2, e3⟩

/-! ### the areas the grammar can denote are printed faithfully

`areaOf` is what the area machine computes (`machine_areaOf`), so it is enough that every step of the
machine keeps its three registers printable. -/

def TokOk (t : Tok) : Prop := ∀ x, t = .heart x → 2 ≤ x ∧ x < 14

def SlotOk (s : Option Nat) : Prop := ∀ x, s = some x → 2 ≤ x ∧ x < 14

structure AMOk (m : AM) : Prop where
  qs : ∀ a ∈ m.1, DispOk a
  bs : ∀ s ∈ m.2.1, SlotOk s
  cur : SlotOk m.2.2

theorem leaf_dispOk {s : Option Nat} (h : SlotOk s) : DispOk (leaf s) := by
  cases s with
  | none => trivial
  | some x => exact Or.inr ⟨(h x rfl).1, (h x rfl).2, rfl, rfl⟩

theorem bangTree_dispOk {bs : List (Option Nat)} {cur : Option Nat} (hb : ∀ s ∈ bs, SlotOk s) (hc : SlotOk cur) :
    DispOk (bangTree bs cur) := by
  induction bs with
  | nil => exact leaf_dispOk hc
  | cons b bs ih =>
    exact Or.inl ⟨Nat.le_refl _, leaf_dispOk (hb b (by simp)), ih fun s hs => hb s (by simp [hs])⟩

theorem quTree_dispOk {qs : List Area} {last : Area} (hq : ∀ a ∈ qs, DispOk a) (hl : DispOk last) :
    DispOk (quTree qs last) := by
  induction qs with
  | nil => exact hl
  | cons a qs ih => exact Or.inl ⟨Nat.zero_le _, hq a (by simp), ih fun s hs => hq s (by simp [hs])⟩

theorem feed_ok {m : AM} {t : Tok} (hm : AMOk m) (ht : TokOk t) : AMOk (feed m t) := by
  obtain ⟨qs, bs, cur⟩ := m
  obtain ⟨hq, hb, hc⟩ := hm
  have none_ok : SlotOk none := fun _ h => by cases h
  cases t with
  | qu =>
    refine ⟨fun a ha => ?_, by simp [feed], none_ok⟩
    rcases List.mem_append.mp ha with h | h
    · exact hq a h
    · rw [List.mem_singleton.mp h]; exact bangTree_dispOk hb hc
  | bang =>
    refine ⟨hq, fun s hs => ?_, none_ok⟩
    rcases List.mem_append.mp hs with h | h
    · exact hb s h
    · rw [List.mem_singleton.mp h]; exact hc
  | heart x =>
    refine ⟨hq, hb, ?_⟩
    cases cur with
    | none => intro y hy; cases hy; exact ht x rfl
    | some c => exact hc

theorem areaOf_dispOk (ts : List Tok) (h : ∀ t ∈ ts, TokOk t) : DispOk (areaOf ts) := by
  obtain ⟨hq, hb, hc⟩ : AMOk (ts.foldl feed ([], [], none)) :=
    List.foldlRecOn ts feed ⟨by simp, by simp, fun _ h => by cases h⟩ fun _ hm t ht => feed_ok hm (h t ht)
  rw [← machine_areaOf]
  exact quTree_dispOk hq (bangTree_dispOk hb hc)

theorem parsed_area_dispOk (s : List Char) : ∀ c ∈ parse s, DispOk c.area := by
  refine parse_all (fun _ _ _ _ u _ _ => areaOf_dispOk _ fun t ht => ?_) s
  obtain ⟨q, _, hq⟩ := List.mem_filterMap.mp ht
  exact (tok_facts hq).1

end HyE
