import Hyeong.Lemmas.NumProof
/-!
# numbers as text

`to_string_base` / `from_string_base` of integers in every base 2…36, `Display` / `from_string` of `Num`.
-/
namespace HyN

theorem digitVal_digitChar : ∀ k, k < 36 → digitVal (digitChar k) = some k := by decide +kernel

theorem digitChar_inj {k j : Nat} (hk : k < 36) (hj : j < 36) (e : digitChar k = digitChar j) : k = j :=
  Option.some.inj (by rw [← digitVal_digitChar k hk, e, digitVal_digitChar j hj])

theorem digitChar_ne {k : Nat} (hk : k < 36) {c : Char} (hc : digitVal c = none) : digitChar k ≠ c :=
  fun e => by rw [← e, digitVal_digitChar k hk] at hc; cases hc

theorem digitVal_range {c : Char} {k : Nat} (h : digitVal c = some k) : ('0' ≤ c ∧ c ≤ '9') ∨ ('A' ≤ c ∧ c ≤ 'Z') :=
  if h1 : '0' ≤ c ∧ c ≤ '9' then .inl h1
  else if h2 : 'A' ≤ c ∧ c ≤ 'Z' then .inr h2
  else by rw [digitVal, if_neg h1, if_neg h2] at h; cases h

theorem div_le_fuel {b n f : Nat} (hb2 : 2 ≤ b) (h0 : n ≠ 0) (h : n ≤ f + 1) : n / b ≤ f :=
  Nat.le_of_lt_succ (Nat.lt_of_lt_of_le (Nat.div_lt_self (Nat.pos_of_ne_zero h0) hb2) h)

theorem digitsRev_zero (b f : Nat) : digitsRev b f 0 = [] := by
  cases f <;> rfl

theorem digitsRev_succ (b f : Nat) {n : Nat} (h0 : n ≠ 0) :
    digitsRev b (f + 1) n = digitChar (n % b) :: digitsRev b f (n / b) := if_neg h0

theorem digitsRev_fuel {b : Nat} (hb2 : 2 ≤ b) : ∀ (f g n : Nat), n ≤ f → n ≤ g → digitsRev b f n = digitsRev b g n := by
  intro f
  induction f with
  | zero =>
    intro g n hf _
    rw [Nat.le_zero.mp hf, digitsRev_zero, digitsRev_zero]
  | succ f ih =>
    intro g n hf hg
    by_cases h0 : n = 0
    · rw [h0, digitsRev_zero, digitsRev_zero]
    · obtain ⟨g, rfl⟩ := Nat.exists_eq_succ_of_ne_zero (fun e => h0 (Nat.le_zero.mp (e ▸ hg)))
      rw [digitsRev_succ b f h0, digitsRev_succ b g h0, ih g _ (div_le_fuel hb2 h0 hf) (div_le_fuel hb2 h0 hg)]

theorem digitsRev_nil_iff (b : Nat) {f n : Nat} (h : n ≤ f) : digitsRev b f n = [] ↔ n = 0 := by
  refine ⟨fun e => Decidable.by_contra fun h0 => ?_, fun e => e ▸ digitsRev_zero b f⟩
  obtain ⟨f, rfl⟩ := Nat.exists_eq_succ_of_ne_zero (fun e => h0 (Nat.le_zero.mp (e ▸ h)))
  rw [digitsRev_succ b f h0] at e
  cases e

theorem digitsRev_mem {b : Nat} (hb : 0 < b) : ∀ (f n : Nat), ∀ c ∈ digitsRev b f n, ∃ k, k < b ∧ c = digitChar k := by
  intro f
  induction f with
  | zero => intro n c h; cases h
  | succ f ih =>
    intro n c h
    by_cases h0 : n = 0
    · rw [h0, digitsRev_zero] at h; cases h
    · rw [digitsRev_succ b f h0] at h
      rcases List.mem_cons.mp h with h | h
      · exact ⟨n % b, Nat.mod_lt _ hb, h⟩
      · exact ih _ c h

theorem horner_snoc (b : Nat) (xs : List Char) (c : Char) (acc : Nat) :
    horner b (xs ++ [c]) acc = (horner b xs acc).bind (fun v => (digitVal c).map (fun k => v * b + k)) := by
  induction xs generalizing acc with
  | nil => simp [horner]; cases digitVal c <;> simp
  | cons x xs ih =>
    simp only [List.cons_append, horner]
    cases digitVal x with
    | none => simp
    | some k => simp [ih]

theorem horner_digitsRev {b : Nat} (hb2 : 2 ≤ b) (hb36 : b ≤ 36) : ∀ (f n : Nat), n ≤ f →
    horner b (digitsRev b f n).reverse 0 = some n := by
  intro f
  induction f with
  | zero => intro n h; rw [Nat.le_zero.mp h]; rfl
  | succ f ih =>
    intro n h
    by_cases h0 : n = 0
    · rw [h0, digitsRev_zero]; rfl
    · have hm : n % b < 36 := Nat.lt_of_lt_of_le (Nat.mod_lt n (by omega)) hb36
      rw [digitsRev_succ b f h0, List.reverse_cons, horner_snoc, ih _ (div_le_fuel hb2 h0 h), Option.bind_some,
        digitVal_digitChar _ hm, Option.map_some, Nat.mul_comm, Nat.div_add_mod]

theorem digitsRev_last {b : Nat} (hb2 : 2 ≤ b) : ∀ (f n : Nat), n ≤ f → n ≠ 0 →
    ∃ k, 0 < k ∧ k < b ∧ (digitsRev b f n).getLast? = some (digitChar k) := by
  intro f
  induction f with
  | zero => intro n h h0; exact absurd (Nat.le_zero.mp h) h0
  | succ f ih =>
    intro n h h0
    rw [digitsRev_succ b f h0, List.getLast?_cons]
    by_cases hq : n / b = 0
    · have hlt : n < b := (Nat.div_eq_zero_iff.mp hq).resolve_left (by omega)
      rw [hq, digitsRev_zero, Nat.mod_eq_of_lt hlt]
      exact ⟨n, Nat.pos_of_ne_zero h0, hlt, rfl⟩
    · obtain ⟨k, hk0, hkb, hl⟩ := ih (n / b) (div_le_fuel hb2 h0 h) hq
      exact ⟨k, hk0, hkb, by rw [hl]; rfl⟩

/-- the digits of the magnitude, most significant first -/
def magDigits (x : Int) (b : Nat) : List Char :=
  let ds := digitsRev b x.natAbs x.natAbs
  (if ds.isEmpty then ['0'] else ds).reverse

theorem toStringBase_eq (x : Int) (b : Nat) :
    toStringBase x b = (if x < 0 then ['-'] else []) ++ magDigits x b := by
  unfold toStringBase magDigits
  split <;> simp

theorem magDigits_eq (x : Int) (b : Nat) :
    magDigits x b = if x = 0 then ['0'] else (digitsRev b x.natAbs x.natAbs).reverse := by
  show (if (digitsRev b x.natAbs x.natAbs).isEmpty then ['0'] else _).reverse = _
  by_cases h : x = 0
  · rw [h]; rfl
  · rw [if_neg h, List.isEmpty_eq_false_iff.mpr (mt (digitsRev_nil_iff b (Nat.le_refl _)).mp (mt Int.natAbs_eq_zero.mp h))]
    rfl

theorem magDigits_ne_nil (x : Int) (b : Nat) : magDigits x b ≠ [] := by
  rw [magDigits_eq]
  split
  · exact List.cons_ne_nil _ _
  · rename_i h
    exact mt (List.reverse_eq_nil_iff.trans (digitsRev_nil_iff b (Nat.le_refl _))).mp (mt Int.natAbs_eq_zero.mp h)

theorem magDigits_mem (x : Int) (b : Nat) (hb2 : 2 ≤ b) :
    ∀ c ∈ magDigits x b, ∃ k, k < b ∧ c = digitChar k := by
  intro c hc
  rw [magDigits_eq] at hc
  split at hc
  · exact ⟨0, by omega, List.mem_singleton.mp hc⟩
  · exact digitsRev_mem (by omega) _ _ c (List.mem_reverse.mp hc)

theorem magDigits_cons (x : Int) (b : Nat) (hb2 : 2 ≤ b) (hb36 : b ≤ 36) :
    ∃ k cs, k < 36 ∧ magDigits x b = digitChar k :: cs := by
  obtain ⟨c, cs, h⟩ := List.exists_cons_of_ne_nil (magDigits_ne_nil x b)
  obtain ⟨k, hk, rfl⟩ := magDigits_mem x b hb2 c (h ▸ List.mem_cons_self)
  exact ⟨k, cs, by omega, h⟩

theorem horner_magDigits (x : Int) (b : Nat) (hb2 : 2 ≤ b) (hb36 : b ≤ 36) :
    horner b (magDigits x b) 0 = some x.natAbs := by
  rw [magDigits_eq]
  split
  · rename_i h; rw [h]; simp [horner, digitVal]
  · exact horner_digitsRev hb2 hb36 _ _ (Nat.le_refl _)

theorem fromStringBase_eq (s : List Char) (b : Nat) :
    fromStringBase s b = (horner b (stripMinus s).2 0).map (fun (n : Nat) => if (stripMinus s).1 then -(n : Int) else n) := by
  unfold fromStringBase stripMinus
  split <;> cases horner b _ 0 <;> rfl

theorem stripMinus_toStringBase (x : Int) (b : Nat) (hb2 : 2 ≤ b) (hb36 : b ≤ 36) (rest : List Char) :
    stripMinus (toStringBase x b ++ rest) = (decide (x < 0), magDigits x b ++ rest) := by
  rw [toStringBase_eq]
  by_cases h : x < 0
  · rw [if_pos h, decide_eq_true h]; rfl
  · obtain ⟨k, cs, hk, e⟩ := magDigits_cons x b hb2 hb36
    rw [if_neg h, decide_eq_false h, e]
    unfold stripMinus
    split
    · rename_i heq; exact absurd (List.cons.inj heq).1 (digitChar_ne hk rfl)
    · rfl

theorem big_roundtrip (x : Int) (b : Nat) (hb2 : 2 ≤ b) (hb36 : b ≤ 36) :
    fromStringBase (toStringBase x b) b = some x := by
  have hs := stripMinus_toStringBase x b hb2 hb36 []
  rw [List.append_nil, List.append_nil] at hs
  rw [fromStringBase_eq, hs, horner_magDigits x b hb2 hb36]
  show some (if decide (x < 0) = true then -(x.natAbs : Int) else x.natAbs) = some x
  congr 1
  split <;> simp only [decide_eq_true_eq] at * <;> omega

theorem toStringBase_nonneg {x : Int} (h : 0 ≤ x) (b : Nat) : toStringBase x b = magDigits x b := by
  rw [toStringBase_eq, if_neg (Int.not_lt.mpr h)]; rfl

theorem fromStringBase_magDigits (x : Int) (b : Nat) (hb2 : 2 ≤ b) (hb36 : b ≤ 36) :
    fromStringBase (magDigits x b) b = some (x.natAbs : Int) := by
  have := big_roundtrip x.natAbs b hb2 hb36
  -- `magDigits` looks at the magnitude only
  rwa [toStringBase_nonneg (Int.natCast_nonneg _), magDigits, Int.natAbs_natCast] at this

theorem digits_conventional (x : Int) (b : Nat) (hb2 : 2 ≤ b) (hb36 : b ≤ 36) :
    toStringBase x b = (if x < 0 then ['-'] else []) ++ magDigits x b ∧
    (∀ c ∈ magDigits x b, ∃ k, k < b ∧ c = digitChar k ∧
      (('0' ≤ c ∧ c ≤ '9') ∨ ('A' ≤ c ∧ c ≤ 'Z'))) ∧
    horner b (magDigits x b) 0 = some x.natAbs ∧
    (x = 0 → magDigits x b = ['0']) ∧ (x ≠ 0 → (magDigits x b).head? ≠ some '0' ∧ magDigits x b ≠ []) := by
  refine ⟨toStringBase_eq x b, ?_, horner_magDigits x b hb2 hb36, ?_, ?_⟩
  · intro c hc
    obtain ⟨k, hk, he⟩ := magDigits_mem x b hb2 c hc
    exact ⟨k, hk, he, digitVal_range (he ▸ digitVal_digitChar k (by omega))⟩
  · intro h0; rw [magDigits_eq, if_pos h0]
  · intro h0
    obtain ⟨k, hk0, hkb, hl⟩ := digitsRev_last hb2 x.natAbs x.natAbs (Nat.le_refl _) (mt Int.natAbs_eq_zero.mp h0)
    refine ⟨?_, magDigits_ne_nil x b⟩
    rw [magDigits_eq, if_neg h0, List.head?_reverse, hl]
    -- `'0'` is `digitChar 0`
    exact fun e => absurd (digitChar_inj (j := 0) (by omega) (by decide) (Option.some.inj e)) (Nat.ne_of_gt hk0)

theorem splitSlash_cons (c : Char) (s : List Char) :
    splitSlash (c :: s) = if c = '/' then [] :: splitSlash s else
      match splitSlash s with
      | [] => [[c]]
      | h :: t => (c :: h) :: t := by
  rfl

theorem splitSlash_noslash {a : List Char} (h : ∀ c ∈ a, c ≠ '/') : splitSlash a = [a] := by
  induction a with
  | nil => rfl
  | cons c cs ih =>
    rw [splitSlash_cons, if_neg (h c (by simp)), ih (fun d hd => h d (by simp [hd]))]

theorem splitSlash_append {a : List Char} (b : List Char) (h : ∀ c ∈ a, c ≠ '/') :
    splitSlash (a ++ '/' :: b) = a :: splitSlash b := by
  induction a with
  | nil => simp [splitSlash_cons]
  | cons c cs ih =>
    rw [List.cons_append, splitSlash_cons, if_neg (h c (by simp)), ih (fun d hd => h d (by simp [hd]))]

theorem magDigits_noslash (x : Int) : ∀ c ∈ magDigits x 10, c ≠ '/' := by
  intro c hc
  obtain ⟨k, hk, rfl⟩ := magDigits_mem x 10 (by decide) c hc
  exact digitChar_ne (by omega) rfl

theorem parseRat_text (u : Int) {d : Int} (hd : 0 < d) :
    parseRat (magDigits u 10 ++ (if d = 1 then [] else '/' :: toStringBase d 10)) =
      some (fromBigNum u.natAbs d) := by
  have hu := fromStringBase_magDigits u 10 (by decide) (by decide)
  split
  · rename_i h1
    rw [List.append_nil, parseRat, splitSlash_noslash (magDigits_noslash u), h1]
    simp only [hu, Option.map_some]
  · rw [toStringBase_nonneg (Int.le_of_lt hd), parseRat, splitSlash_append _ (magDigits_noslash u),
      splitSlash_noslash (magDigits_noslash d)]
    simp only [hu, fromStringBase_magDigits d 10 (by decide) (by decide), Int.natAbs_of_nonneg (Int.le_of_lt hd)]

/-- a number's text starts with `-` or a digit, the NaN text with a Hangul syllable -/
theorem nanText_ne (x : Int) (b : Nat) (hb2 : 2 ≤ b) (hb36 : b ≤ 36) (rest : List Char) :
    toStringBase x b ++ rest ≠ nanText := by
  obtain ⟨k, cs, hk, e⟩ := magDigits_cons x b hb2 hb36
  rw [toStringBase_eq, e]
  intro h
  split at h
  · exact absurd (List.cons.inj h).1 (by decide)
  · exact absurd (List.cons.inj h).1 (digitChar_ne hk rfl)

/-- `Int.gcd` is the gcd of the magnitudes by definition -/
theorem canon_abs {n : NumI} (h : Canon n) : Canon ⟨(n.up.natAbs : Int), n.down⟩ :=
  ⟨h.1, h.2⟩

theorem num_roundtrip (n : NumI) (h : Valid n) :
    (Canon n → fromString (display n) = some n) ∧
    (n.down = 0 → fromString (display n) = some nan) := by
  constructor
  · intro hc
    rw [display_of_canon hc, fromString, if_neg (nanText_ne _ 10 (by decide) (by decide) _),
      stripMinus_toStringBase _ 10 (by decide) (by decide), parseRat_text _ hc.1, Option.map_some, fromBigNum,
      optimize_canon (canon_abs hc)]
    obtain ⟨up, down⟩ := n
    show some (if decide (up < 0) = true then neg ⟨up.natAbs, down⟩ else ⟨up.natAbs, down⟩) = some ⟨up, down⟩
    by_cases hu : up < 0
    · rw [decide_eq_true hu, if_pos rfl, neg, ← Int.eq_neg_natAbs_of_nonpos (Int.le_of_lt hu)]
    · rw [decide_eq_false hu, if_neg Bool.false_ne_true, Int.natAbs_of_nonneg (Int.not_lt.mp hu)]
  · intro h0
    rw [display_nan n (decide_eq_true h0)]
    rfl

end HyN
