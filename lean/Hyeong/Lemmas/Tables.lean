import Hyeong.Spec.Grammar
/-! The character-class functions are lookups in the literal tables, and the classes exclude each other:
a successful lookup puts the character on its table, and a statement about all rows of a table is
closed by evaluation. -/
namespace HyP

/-! ### lookups in a list -/

theorem find?_key_none {β : Type} {l : List (Char × β)} {c : Char} (h : c ∉ l.map (·.1)) :
    l.find? (·.1 == c) = none :=
  List.find?_eq_none.mpr fun x hx hp => h (List.mem_map.mpr ⟨x, hx, by simpa using hp⟩)

theorem of_idxOf? {l : List Char} {c : Char} {k : Nat} (h : l.idxOf? c = some k) :
    ∃ hk : k < l.length, l[k] = c :=
  let ⟨hk, e, _⟩ := List.idxOf?_eq_some_iff.mp h; ⟨hk, e⟩

theorem of_find? {β : Type} {l : List (Char × β)} {c : Char} {v : β}
    (h : (l.find? (·.1 == c)).map (·.2) = some v) : ∃ x ∈ l, x.1 = c ∧ x.2 = v := by
  obtain ⟨x, hx, e⟩ := Option.map_eq_some_iff.mp h
  exact ⟨x, List.mem_of_find?_eq_some hx, by simpa using List.find?_some hx, e⟩

/-! ### the class functions are lookups in the tables -/

theorem cmd1Idx_eq (c : Char) : cmd1Idx c = cmdChars.idxOf? c := by
  by_cases h : c ∈ cmdChars
  · revert c; decide +kernel
  · rw [List.idxOf?_eq_none_iff.mpr h]
    simp_all [cmd1Idx, cmdChars]

theorem startIdx_eq (c : Char) : startIdx c = startChars.idxOf? c := by
  by_cases h : c ∈ startChars
  · revert c; decide +kernel
  · rw [List.idxOf?_eq_none_iff.mpr h]
    simp_all [startIdx, startChars]

theorem endInfo_eq (c : Char) : endInfo c = (endTable.find? (·.1 == c)).map (·.2) := by
  by_cases h : c ∈ endTable.map (·.1)
  · revert c; decide +kernel
  · rw [find?_key_none h]
    simp_all [endInfo, endTable]

theorem dotW_eq (c : Char) : dotW c = (dotTable.find? (·.1 == c)).map (·.2) := by
  by_cases h : c ∈ dotTable.map (·.1)
  · revert c; decide +kernel
  · rw [find?_key_none h]
    simp_all [dotW, dotTable]

theorem heartIdx_eq (c : Char) : heartIdx c = (heartChars.idxOf? c).map (· + 2) := rfl

/-! ### the classes exclude each other -/

/-- The answers of the seven tests the parser puts to a character. The lemmas below are the table of the
classes against the tests: one row per class, with the bound on what its own lookup returns. -/
structure Tests (c : Char) (cmd start : Option Nat) (end' : Option (Nat × Nat)) (dot : Option Nat) (tok : Option Tok)
    (hangul ws : Bool) : Prop where
  cmd1Idx : cmd1Idx c = cmd
  startIdx : startIdx c = start
  endInfo : endInfo c = end'
  dotW : dotW c = dot
  tokOf : tokOf c = tok
  isHangul : isHangul c = hangul
  isWs : isWs c = ws

/-- so that a row is checked by evaluation -/
instance {c cmd start end' dot tok hangul ws} : Decidable (Tests c cmd start end' dot tok hangul ws) :=
  decidable_of_iff (cmd1Idx c = cmd ∧ startIdx c = start ∧ endInfo c = end' ∧ dotW c = dot ∧ tokOf c = tok ∧
      isHangul c = hangul ∧ isWs c = ws)
    ⟨fun ⟨h1, h2, h3, h4, h5, h6, h7⟩ => ⟨h1, h2, h3, h4, h5, h6, h7⟩,
      fun ⟨h1, h2, h3, h4, h5, h6, h7⟩ => ⟨h1, h2, h3, h4, h5, h6, h7⟩⟩

theorem cmd1_facts {c : Char} {k : Nat} (h : cmd1Idx c = some k) :
    k < 6 ∧ Tests c (some k) none none none none true false := by
  obtain ⟨hk, rfl⟩ := of_idxOf? (cmd1Idx_eq c ▸ h)
  clear h; revert k; decide +kernel

theorem start_facts {c : Char} {k : Nat} (h : startIdx c = some k) :
    k < 3 ∧ Tests c none (some k) none none none true false := by
  obtain ⟨hk, rfl⟩ := of_idxOf? (startIdx_eq c ▸ h)
  clear h; revert k; decide +kernel

theorem end_facts {c : Char} {v : Nat × Nat} (h : endInfo c = some v) :
    v.2 < 6 ∧ Tests c none none (some v) none none true false := by
  obtain ⟨x, hx, rfl, rfl⟩ := of_find? (endInfo_eq c ▸ h)
  clear h; revert x; decide +kernel

theorem dot_facts {c : Char} {w : Nat} (h : dotW c = some w) : Tests c none none none (some w) none false false := by
  obtain ⟨x, hx, rfl, rfl⟩ := of_find? (dotW_eq c ▸ h)
  clear h; revert x; decide +kernel

theorem tok_facts {c : Char} {t : Tok} (h : tokOf c = some t) :
    (∀ x, t = .heart x → 2 ≤ x ∧ x < 14) ∧ Tests c none none none none (some t) false false := by
  have hm : c ∈ '?' :: '!' :: heartChars ∧ ∀ x, t = .heart x → 2 ≤ x ∧ x < 14 := by
    unfold tokOf at h
    by_cases hq : c = '?'
    · rw [if_pos hq] at h; cases h
      exact ⟨hq ▸ List.mem_cons_self, nofun⟩
    rw [if_neg hq] at h
    by_cases hb : c = '!'
    · rw [if_pos hb] at h; cases h
      exact ⟨hb ▸ List.mem_cons_of_mem _ List.mem_cons_self, nofun⟩
    rw [if_neg hb] at h
    obtain ⟨x, hx, rfl⟩ := Option.map_eq_some_iff.mp h
    obtain ⟨j, hj, rfl⟩ := Option.map_eq_some_iff.mp hx
    obtain ⟨hk, rfl⟩ := of_idxOf? hj
    exact ⟨List.mem_cons_of_mem _ (List.mem_cons_of_mem _ (List.getElem_mem hk)),
      fun x e => by cases e; exact ⟨Nat.le_add_left .., Nat.add_lt_add_right hk 2⟩⟩
  -- the token test is `h` itself; the other six answers are read off the table
  have row : ∀ c ∈ '?' :: '!' :: heartChars, cmd1Idx c = none ∧ startIdx c = none ∧ endInfo c = none ∧ dotW c = none ∧
      isHangul c = false ∧ isWs c = false := by decide +kernel
  obtain ⟨h1, h2, h3, h4, h6, h7⟩ := row c hm.1
  exact ⟨hm.2, h1, h2, h3, h4, h, h6, h7⟩

theorem ws_facts {c : Char} (h : isWs c = true) : Tests c none none none none none false true := by
  have ne : ∀ {α : Type} {o : Option α}, (∀ a, o = some a → isWs c = false) → o = none := by
    intro α o f
    cases o with
    | none => rfl
    | some a => rw [f a rfl] at h; cases h
  refine ⟨ne fun _ e => (cmd1_facts e).2.isWs, ne fun _ e => (start_facts e).2.isWs, ne fun _ e => (end_facts e).2.isWs,
    ne fun _ e => (dot_facts e).isWs, ne fun _ e => (tok_facts e).2.isWs, ?_, h⟩
  -- a Hangul syllable is not whitespace: both are ranges of code points
  cases hk : isHangul c with
  | false => rfl
  | true =>
    simp only [isHangul, Bool.and_eq_true, decide_eq_true_eq] at hk
    simp only [isWs, Bool.or_eq_true, Bool.and_eq_true, decide_eq_true_eq] at h
    omega

end HyP
