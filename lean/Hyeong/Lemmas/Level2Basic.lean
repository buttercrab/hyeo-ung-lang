import Hyeong.Model.Optimize
import Hyeong.Lemmas.CompCtl
import Hyeong.Lemmas.Runs
/-!
# where the jump targets of a run point, and what `optimize` returns

A step stores and goes to old targets or its own location (`Targets.step`), so a property of all stored targets is kept
along runs.  `InvK k`, `HyC.InvLt k` and `HyC.CtlOk p` are `Targets` at three predicates.
-/
namespace HyE
variable {N : Type} [NumOps N]

/-- every stored jump target of `s` (label table, return target) satisfies `Q` -/
def Targets (Q : Nat → Prop) (s : St N) : Prop := (∀ x ∈ s.points, Q x.2) ∧ (∀ l, s.latest = some l → Q l)

omit [NumOps N] in
theorem Targets.mono {Q Q' : Nat → Prop} {s : St N} (h : Targets Q s) (hq : ∀ v, Q v → Q' v) : Targets Q' s :=
  ⟨fun x hx => hq _ (h.1 x hx), fun l hl => hq _ (h.2 l hl)⟩

omit [NumOps N] in
theorem Targets.init (Q : Nat → Prop) : Targets Q (St.init : St N) :=
  ⟨fun _ hx => (nomatch hx), fun _ hl => (nomatch hl)⟩

/-- jump targets are at most `k`: what lets a run of a prefix of the code be continued as a run of the whole code -/
def InvK (k : Nat) (s : St N) : Prop := (∀ x ∈ s.points, x.2 ≤ k) ∧ (∀ l, s.latest = some l → l ≤ k)

omit [NumOps N] in
theorem InvK.mono {k k' : Nat} {s : St N} (h : InvK k s) (hk : k ≤ k') : InvK k' s :=
  Targets.mono (Q := (· ≤ k)) h fun _ hv => Nat.le_trans hv hk

omit [NumOps N] in
theorem InvK.init (k : Nat) : InvK k (St.init : St N) := Targets.init (· ≤ k)

omit [NumOps N] in
theorem Targets.jump {Q : Nat → Prop} {s : St N} (h : Targets Q s) (c : Cmd) {loc : Nat} (t : Nat) (hloc : t ≠ 0 → Q loc) :
    Targets Q (jump s c loc t).1 ∧ ((jump s c loc t).2 = loc + 1 ∨ Q (jump s c loc t).2) := by
  rcases jump_cases s c loc t with e | ⟨h0, v, hv, e⟩ | ⟨h0, e⟩ | ⟨l, hlat, e⟩ <;> rw [e]
  · exact ⟨h, .inl rfl⟩
  · obtain ⟨x, hx, rfl⟩ := lookup_mem hv
    exact ⟨⟨h.1, fun l e => by cases e; exact hloc h0⟩, .inr (h.1 x hx)⟩
  · refine ⟨⟨fun x hx => ?_, h.2⟩, .inl rfl⟩
    rcases List.mem_append.mp hx with hx | hx
    · exact h.1 x hx
    · cases List.mem_singleton.mp hx; exact hloc h0
  · exact ⟨h, .inr (h.2 l hlat)⟩

/-- a tag other than 0 comes from a heart, so only a command with an area can store its own location -/
theorem Targets.step {Q : Nat → Prop} {p : List Cmd} {c c' : Cfg N} (h : Targets Q c.m.1) (hs : step p c = .ok c')
    (hloc : ∀ cmd, p[c.loc]? = some cmd → cmd.area ≠ .nil → Q c.loc) :
    Targets Q c'.m.1 ∧ (c'.loc ≤ c.loc + 1 ∨ Q c'.loc) := by
  rcases step_ok hs with ⟨_, rfl⟩ | ⟨cmd, m1, r, hg, he, ha, rfl⟩
  · exact ⟨h, .inl (Nat.le_succ _)⟩
  · have k1 := execCmd_ctl he
    have k2 := areaCalc_ctl ha
    have hr : Targets Q r.2.1 := by unfold Targets; rw [k2.1, k1.1, k2.2, k1.2]; exact h
    exact (hr.jump cmd r.1 fun ht => hloc cmd hg fun hn => by rw [hn] at ha; cases ha; exact ht rfl).imp id
      (Or.imp_left Nat.le_of_eq)

theorem step_invK {k : Nat} {p : List Cmd} {c c' : Cfg N} (hinv : InvK k c.m.1) (hl : c.loc ≤ k) (hs : step p c = .ok c') :
    InvK k c'.m.1 ∧ c'.loc ≤ k + 1 :=
  (Targets.step (Q := (· ≤ k)) hinv hs fun _ _ _ => hl).imp id fun h => by rcases h with e | e <;> omega

theorem iterOk_invK {k : Nat} {p : List Cmd} (hp : p.length ≤ k + 1) {j : Nat} {c c' : Cfg N} (h : iterOk p j c = some c')
    (hinv : InvK k c.m.1) (hl : c.loc ≤ k + 1) : InvK k c'.m.1 ∧ c'.loc ≤ k + 1 :=
  iterOk_inv (J := fun c => InvK k c.m.1 ∧ c.loc ≤ k + 1) (fun hlt hs hc => step_invK hc.1 (by omega) hs) h ⟨hinv, hl⟩

theorem optimize_ok {budget level : Nat} {p : List Cmd} {w : World} {code : List Cmd} {size : Nat} {r : Opt2 N}
    (h : optimize budget level p w = .ok (code, size, r)) :
    code = (optimize1 p).1 ∧ size = (optimize1 p).2 ∧
    if level ≥ 2 then optimize2Loop budget code code.length 0 (St.init, w) = .ok r else r = ⟨(St.init, w), 0⟩ := by
  unfold optimize at h
  by_cases hl : level ≥ 2
  · simp only [hl, ↓reduceIte] at h ⊢
    split at h
    · cases h
    · cases h; exact ⟨rfl, rfl, ‹_›⟩
  · simp only [hl, ↓reduceIte] at h ⊢
    cases h; exact ⟨rfl, rfl, rfl⟩

theorem optimize_error {budget level : Nat} {p : List Cmd} {w : World} {e : Stop}
    (h : optimize (N := N) budget level p w = .error e) :
    optimize2Loop (N := N) budget (optimize1 p).1 (optimize1 p).1.length 0 (St.init, w) = .error e := by
  simp only [optimize] at h
  split at h
  · split at h
    · cases h; assumption
    · cases h
  · cases h

theorem optimize1_forall {P : Cmd → Prop} (hP : ∀ c d, P c → P { c with dots := d }) {p : List Cmd} (h : ∀ c ∈ p, P c) :
    ∀ c ∈ (optimize1 p).1, P c := by
  intro c hc
  obtain ⟨d, hd, rfl⟩ := List.mem_map.mp hc
  unfold renumCmd
  split
  · exact h d hd
  · exact hP _ _ (h d hd)

end HyE
