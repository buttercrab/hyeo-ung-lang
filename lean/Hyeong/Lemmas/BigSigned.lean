import Hyeong.Lemmas.BigDiv
import Hyeong.Lemmas.BigAddSub
/-!
The signed operations of `big_number.rs` (`add`, `sub`, `mul`, `div`, `rem`, `minus`, `neg`) compute the integer
operations on well-formed numbers. `WF x`: the representation invariant; `Rep x n`: well formed with value `n`, which
determines `x` (`wf_unique`).
-/
namespace HyB

/-- representation invariant of `BigNum`: normalised magnitude, zero is "positive" -/
def WF (x : BigNum) : Prop := Norm x.val ∧ (value x.val = 0 → x.pos = true)

/-- `x` is well formed with value `n`: the form in which the theorems below compose (`gcd`, `num.rs` over limbs and
the text loops chain `Rep.add`, `Rep.mul`, …) -/
def Rep (x : BigNum) (n : Int) : Prop := WF x ∧ toInt x = n

theorem WF.rep {x : BigNum} (h : WF x) : Rep x (toInt x) := ⟨h, rfl⟩

theorem isZero_iff {x : BigNum} (h : WF x) : isZero x = true ↔ value x.val = 0 := by
  rw [isZero, beq_iff_eq, norm_zero_iff h.1]

theorem natAbs_toInt (x : BigNum) : (toInt x).natAbs = value x.val := by
  unfold toInt; split <;> simp

theorem toInt_eq_zero_iff (x : BigNum) : toInt x = 0 ↔ value x.val = 0 := by
  rw [← Int.natAbs_eq_zero, natAbs_toInt]

/-- the flag is the sign of the value: `WF` leaves no negative zero -/
theorem WF.pos_iff {x : BigNum} (h : WF x) : x.pos = true ↔ 0 ≤ toInt x := by
  obtain ⟨p, v⟩ := x
  cases p
  · have : value v ≠ 0 := fun h0 => Bool.false_ne_true (h.2 h0)
    exact iff_of_false Bool.false_ne_true (by show ¬ 0 ≤ -(value v : Int); omega)
  · exact iff_of_true rfl (Int.natCast_nonneg (value v))

theorem wf_unique {a b : BigNum} (ha : WF a) (hb : WF b) (h : toInt a = toInt b) : a = b := by
  obtain ⟨pa, va⟩ := a
  obtain ⟨pb, vb⟩ := b
  have hp : pa = pb := Bool.eq_iff_iff.mpr (ha.pos_iff.trans (h ▸ hb.pos_iff.symm))
  have hv : va = vb := norm_unique ha.1 hb.1 (by rw [← natAbs_toInt ⟨pa, va⟩, h, natAbs_toInt])
  rw [hp, hv]

/-- the form of every result: a sign on a shrunk vector; `hp` keeps zero positive -/
theorem rep_shrink {p : Bool} {v : List Nat} (hv : Limbs v) (hne : v ≠ []) (hp : value v = 0 → p = true) :
    Rep ⟨p, shrink v⟩ (if p then (value v : Int) else -(value v : Int)) :=
  ⟨⟨norm_shrink hv hne, fun h => hp ((value_shrink v).symm.trans h)⟩, by rw [toInt, value_shrink]⟩

theorem rep_fromVec {v : List Nat} (hv : Limbs v) (hne : v ≠ []) : Rep (fromVec v) (value v) :=
  rep_shrink hv hne fun _ => rfl

theorem rep_zero : Rep zero 0 := rep_fromVec (v := [0]) (limbs_replicate_zero 1) (List.cons_ne_nil _ _)
theorem rep_one : Rep one 1 := rep_fromVec (v := [1]) (limbs_cons.mpr ⟨by decide, limbs_nil⟩) (List.cons_ne_nil _ _)

theorem new_correct (n : Int) (h1 : -(2 ^ 63) ≤ n) (h2 : n < 2 ^ 63) : WF (new n) ∧ toInt (new n) = n := by
  have hm : n.natAbs < B * B := by simp only [B]; omega
  have hl : Limbs [n.natAbs % B, n.natAbs / B] :=
    limbs_cons.mpr ⟨Nat.mod_lt _ B_pos, limbs_cons.mpr ⟨(Nat.div_lt_iff_lt_mul B_pos).mpr hm, limbs_nil⟩⟩
  have hv : value [n.natAbs % B, n.natAbs / B] = n.natAbs := by
    rw [value, value_singleton]; exact Nat.mod_add_div ..
  obtain ⟨hw, hi⟩ := rep_shrink (p := decide (0 ≤ n)) hl (List.cons_ne_nil _ _)
    (fun h0 => decide_eq_true (Int.le_of_eq (Int.natAbs_eq_zero.mp (hv.symm.trans h0)).symm))
  refine ⟨hw, hi.trans ?_⟩
  rw [hv]
  by_cases hn : 0 ≤ n
  · rw [if_pos (decide_eq_true hn), Int.natAbs_of_nonneg hn]
  · rw [if_neg (mt of_decide_eq_true hn), Int.ofNat_natAbs_of_nonpos (Int.le_of_lt (Int.not_le.mp hn)), Int.neg_neg]

theorem Rep.new {n : Int} (h1 : -(2 ^ 63) ≤ n) (h2 : n < 2 ^ 63) : Rep (new n) n := new_correct n h1 h2

theorem toInt_not (p : Bool) (v : List Nat) : toInt ⟨!p, v⟩ = - toInt ⟨p, v⟩ := by
  cases p
  · exact (Int.neg_neg _).symm
  · rfl

theorem Rep.minus {a : BigNum} {x : Int} (ha : Rep a x) : Rep (minus a) (-x) := by
  obtain ⟨h, rfl⟩ := ha
  unfold HyB.minus
  by_cases hz : isZero a = true
  · simp only [hz, ↓reduceIte]
    exact ⟨h, by rw [(toInt_eq_zero_iff a).mpr ((isZero_iff h).mp hz)]; rfl⟩
  · simp only [hz, Bool.false_eq_true, ↓reduceIte]
    exact ⟨⟨h.1, fun h0 => absurd ((isZero_iff h).mpr h0) hz⟩, toInt_not a.pos a.val⟩

theorem neg_eq_minus (x : BigNum) : neg x = minus x := by
  unfold neg minus
  cases isZero x <;> rfl

theorem Rep.neg {a : BigNum} {x : Int} (ha : Rep a x) : Rep (neg a) (-x) := neg_eq_minus a ▸ ha.minus

/-- the tail of every signed operation: `from_vec` of a core's result, then `minus` if the sign says so -/
def mk (s : Bool) (v : List Nat) : BigNum := if s then minus (fromVec v) else fromVec v

theorem mk_correct {s : Bool} {v : List Nat} {n : Int} (hv : Limbs v) (hne : v ≠ [])
    (hn : (if s then -(value v : Int) else value v) = n) : Rep (mk s v) n := by
  subst hn
  cases s
  · exact rep_fromVec hv hne
  · exact (rep_fromVec hv hne).minus

theorem reshrink {x : BigNum} (h : WF x) : (⟨x.pos, shrink x.val⟩ : BigNum) = x := by
  cases x with
  | mk p v => simp only [h.1.2.2]

/-- `subCore`'s flag read as a sign gives `|l| - |r|`, negated `|r| - |l|`: the two mixed clauses of `add` -/
theorem subCore_signed {l r : List Nat} (hl : Norm l) (hr : Norm r) :
    (if (subCore l r).2 then -(value (subCore l r).1 : Int) else value (subCore l r).1) = value l - value r ∧
    (if !(subCore l r).2 then -(value (subCore l r).1 : Int) else value (subCore l r).1) = value r - value l := by
  obtain ⟨hlt, hv, -⟩ := subCore_value hl hr
  rw [hv]
  by_cases h : value l < value r
  · rw [hlt.mpr h, if_pos h, Int.ofNat_sub (Nat.le_of_lt h)]
    exact ⟨Int.neg_sub .., rfl⟩
  · rw [Bool.eq_false_iff.mpr (mt hlt.mp h), if_neg h, Int.ofNat_sub (Nat.le_of_not_lt h)]
    exact ⟨rfl, Int.neg_sub ..⟩

/-- only `Norm`, not `WF`: `sub` hands `add` an operand that may be a negative zero -/
theorem add_correct' {a b : BigNum} (ha : Norm a.val) (hb : Norm b.val) :
    WF (add a b) ∧ toInt (add a b) = toInt a + toInt b := by
  obtain ⟨-, -, hsl, hsne⟩ := subCore_value ha hb
  have hal := addCore_limbs ha.1 hb.1
  have hane := addC_ne_nil a.val b.val 0
  -- the closing `shrink` of `add` changes nothing
  have tail : ∀ {s v n}, Limbs v → v ≠ [] → (if s then -(value v : Int) else value v) = n →
      Rep ⟨(mk s v).pos, shrink (mk s v).val⟩ n := by
    intro s v n hv hne hn
    rw [reshrink (mk_correct hv hne hn).1]; exact mk_correct hv hne hn
  obtain ⟨pa, va⟩ := a
  obtain ⟨pb, vb⟩ := b
  cases pa <;> cases pb
  · -- both negative: the magnitudes are added, the sign is set
    refine tail (s := true) hal hane ?_
    show -(value (addCore va vb) : Int) = -(value va : Int) + -(value vb : Int)
    rw [addCore_value, Int.natCast_add, Int.neg_add]
  · -- negative and positive: `|b| - |a|`, the result of `subCore` with its sign flipped
    refine tail (s := !(subCore va vb).2) (v := (subCore va vb).1) hsl hsne ?_
    rw [(subCore_signed ha hb).2]
    show (value vb : Int) - value va = -(value va : Int) + value vb
    rw [Int.sub_eq_add_neg, Int.add_comm]
  · -- positive and negative: `|a| - |b|`, the result of `subCore`
    refine tail (s := (subCore va vb).2) (v := (subCore va vb).1) hsl hsne ?_
    rw [(subCore_signed ha hb).1]
    show (value va : Int) - value vb = value va + -(value vb : Int)
    exact Int.sub_eq_add_neg
  · -- both positive: the magnitudes are added
    refine tail (s := false) hal hane ?_
    show (value (addCore va vb) : Int) = (value va : Int) + value vb
    rw [addCore_value, Int.natCast_add]

theorem add_correct {a b : BigNum} (ha : WF a) (hb : WF b) :
    WF (add a b) ∧ toInt (add a b) = toInt a + toInt b := add_correct' ha.1 hb.1

theorem sub_eq_add (a b : BigNum) : sub a b = add a ⟨!b.pos, b.val⟩ := by
  unfold sub add
  cases b.pos <;> rfl

theorem sub_correct {a b : BigNum} (ha : WF a) (hb : WF b) :
    WF (sub a b) ∧ toInt (sub a b) = toInt a - toInt b := by
  rw [sub_eq_add]
  have := add_correct' (a := a) (b := ⟨!b.pos, b.val⟩) ha.1 hb.1
  exact ⟨this.1, by rw [this.2, toInt_not, Int.sub_eq_add_neg]⟩

theorem mul_correct {a b : BigNum} (ha : WF a) (hb : WF b) :
    WF (mul a b) ∧ toInt (mul a b) = toInt a * toInt b := by
  obtain ⟨hv, hl, hlen⟩ := multCore_spec ha.1.1 hb.1.1
  refine mk_correct (s := a.pos != b.pos) hl (List.ne_nil_of_length_pos (hlen ▸ Nat.succ_pos _)) ?_
  rw [hv]
  unfold toInt
  cases a.pos <;> cases b.pos <;> simp [Int.natCast_mul, Int.neg_mul, Int.mul_neg]

theorem div_correct {a b : BigNum} (ha : WF a) (hb : WF b) (h0 : toInt b ≠ 0) :
    WF (div a b) ∧ toInt (div a b) = (toInt a).tdiv (toInt b) := by
  have hR : 0 < value b.val := Nat.pos_of_ne_zero (mt (toInt_eq_zero_iff b).mpr h0)
  obtain ⟨hv, hl, hlen⟩ := divCore_spec ha.1.1 hb.1.1 hR
  have hbl := List.length_pos_iff.mpr hb.1.2.1
  refine mk_correct (s := a.pos != b.pos) hl
    (List.ne_nil_of_length_pos (hlen ▸ Nat.lt_of_lt_of_le hbl (Nat.le_max_right ..))) ?_
  rw [hv]
  unfold toInt
  cases a.pos <;> cases b.pos <;> simp [Int.tdiv_neg, Int.neg_tdiv]

theorem rem_correct {a b : BigNum} (ha : WF a) (hb : WF b) (h0 : toInt b ≠ 0) :
    WF (rem a b) ∧ toInt (rem a b) = (toInt a).tmod (toInt b) := by
  have hd := div_correct ha hb h0
  have hm := mul_correct hd.1 hb
  have hs := sub_correct ha hm.1
  unfold rem
  refine ⟨hs.1, ?_⟩
  rw [hs.2, hm.2, hd.2, Int.tmod_def, Int.mul_comm]

variable {a b : BigNum} {x y : Int}

theorem Rep.add (ha : Rep a x) (hb : Rep b y) : Rep (add a b) (x + y) :=
  ha.2 ▸ hb.2 ▸ add_correct ha.1 hb.1
theorem Rep.sub (ha : Rep a x) (hb : Rep b y) : Rep (sub a b) (x - y) :=
  ha.2 ▸ hb.2 ▸ sub_correct ha.1 hb.1
theorem Rep.mul (ha : Rep a x) (hb : Rep b y) : Rep (mul a b) (x * y) :=
  ha.2 ▸ hb.2 ▸ mul_correct ha.1 hb.1
theorem Rep.div (ha : Rep a x) (hb : Rep b y) (h0 : y ≠ 0) : Rep (div a b) (x.tdiv y) :=
  ha.2 ▸ hb.2 ▸ div_correct ha.1 hb.1 (hb.2 ▸ h0)
theorem Rep.rem (ha : Rep a x) (hb : Rep b y) (h0 : y ≠ 0) : Rep (rem a b) (x.tmod y) :=
  ha.2 ▸ hb.2 ▸ rem_correct ha.1 hb.1 (hb.2 ▸ h0)

theorem Rep.isZero (ha : Rep a x) : isZero a = decide (x = 0) := by
  rw [← ha.2, Bool.eq_iff_iff, isZero_iff ha.1, decide_eq_true_iff, toInt_eq_zero_iff]

end HyB
