import Hyeong.Lemmas.StepRules
/-!
# relations that the step semantics respects

A relation between two machines (possibly over two number types, possibly addressing different stacks) that `popWrap`,
`pushWrap`, the selection of a stack and the operations of `NumOps` respect (`StepRel`) is respected by `popN … areaCalc`
and, if `jump` respects it too (`JumpRel`), by steps and whole runs (`StepRel.runN`).  Every simulation of the development is
an instance; `ExecPost` is the same calculus for invariants of one machine.
-/
namespace HyE
open HyP (Area)

inductive LR {α β : Type} (R : α → β → Prop) : List α → List β → Prop
  | nil : LR R [] []
  | cons {a b as bs} : R a b → LR R as bs → LR R (a :: as) (b :: bs)

section
variable {α β : Type} {R : α → β → Prop}

theorem LR.isEmpty {l : List α} {l' : List β} (h : LR R l l') : l.isEmpty = l'.isEmpty := by
  cases h <;> rfl

theorem LR.length_eq {l : List α} {l' : List β} (h : LR R l l') : l.length = l'.length := by
  induction h with
  | nil => rfl
  | cons _ _ ih => exact congrArg (· + 1) ih

theorem LR.foldl {f : α → α → α} {g : β → β → β} (hf : ∀ {a b x y}, R a b → R x y → R (f a x) (g b y)) :
    ∀ {l : List α} {l' : List β}, LR R l l' → ∀ {a : α} {b : β}, R a b → R (l.foldl f a) (l'.foldl g b) := by
  intro l l' hl
  induction hl with
  | nil => intro a b h; exact h
  | cons hxy _ ih => intro a b h; exact ih (hf h hxy)

theorem LR.map {f : α → α} {g : β → β} (hf : ∀ {a b}, R a b → R (f a) (g b)) {l : List α} {l' : List β}
    (h : LR R l l') : LR R (l.map f) (l'.map g) := by
  induction h with
  | nil => exact .nil
  | cons hab _ ih => exact .cons (hf hab) ih

theorem LR.replicate (k : Nat) {a : α} {b : β} (h : R a b) : LR R (List.replicate k a) (List.replicate k b) := by
  induction k with
  | zero => exact .nil
  | succ k ih => exact .cons h ih

end

structure NumSim (N N' : Type) [NumOps N] [NumOps N'] (R : N → N' → Prop) : Prop where
  zero : R NumOps.zero NumOps.zero
  one : R NumOps.one NumOps.one
  nan : R NumOps.nan NumOps.nan
  ofNat : ∀ n, R (NumOps.ofNat n) (NumOps.ofNat n)
  add : ∀ {a b x y}, R a b → R x y → R (NumOps.add a x) (NumOps.add b y)
  mul : ∀ {a b x y}, R a b → R x y → R (NumOps.mul a x) (NumOps.mul b y)
  neg : ∀ {a b}, R a b → R (NumOps.neg a) (NumOps.neg b)
  inv : ∀ {a b}, R a b → R (NumOps.inv a) (NumOps.inv b)
  isNan : ∀ {a b}, R a b → NumOps.isNan a = NumOps.isNan b
  cmp : ∀ {a b x y}, R a b → R x y → NumOps.cmp a x = NumOps.cmp b y
  /-- the right-hand side (the language definition) may leave a write unspecified -/
  render : ∀ {a b}, R a b → NumOps.render b = .unspecified ∨ NumOps.render a = NumOps.render b

theorem NumSim.refl (N : Type) [NumOps N] : NumSim N N Eq where
  zero := rfl
  one := rfl
  nan := rfl
  ofNat _ := rfl
  add := by rintro _ _ _ _ rfl rfl; rfl
  mul := by rintro _ _ _ _ rfl rfl; rfl
  neg := by rintro _ _ rfl; rfl
  inv := by rintro _ _ rfl; rfl
  isNan := by rintro _ _ rfl; rfl
  cmp := by rintro _ _ _ _ rfl rfl; rfl
  render := by rintro _ _ rfl; exact .inr rfl

variable {N N' : Type} [NumOps N] [NumOps N'] {R : N → N' → Prop}

set_option linter.unusedSectionVars false in
theorem LR.append {l1 l2 : List N} {k1 k2 : List N'} (h1 : LR R l1 k1) (h2 : LR R l2 k2) : LR R (l1 ++ l2) (k1 ++ k2) := by
  induction h1 with
  | nil => exact h2
  | cons hab _ ih => exact .cons hab ih

theorem LR.reverse {l : List N} {l' : List N'} (h : LR R l l') : LR R l.reverse l'.reverse := by
  induction h with
  | nil => exact .nil
  | cons hab _ ih => simp only [List.reverse_cons]; exact ih.append (.cons hab .nil)

/-- results correspond: values related by `Q`, or stops related by `E`; against a stop in `U` on the
right (a run the language definition leaves unspecified) anything goes -/
inductive ResRel (E : Stop × World → Stop × World → Prop) (U : Stop × World → Prop) {α β : Type} (Q : α → β → Prop) :
    Res α → Res β → Prop
  | ok {a b} : Q a b → ResRel E U Q (.ok a) (.ok b)
  | err {e e'} : E e e' → ResRel E U Q (.error e) (.error e')
  | top {x e'} : U e' → ResRel E U Q x (.error e')

variable {E : Stop × World → Stop × World → Prop} {U : Stop × World → Prop}

theorem ResRel.andThen {α β γ δ : Type} {Q : α → β → Prop} {S : γ → δ → Prop} {x : Res α} {y : Res β}
    (h : ResRel E U Q x y) {f : α → Res γ} {g : β → Res δ} (hf : ∀ a b, Q a b → ResRel E U S (f a) (g b)) :
    ResRel E U S (x.andThen f) (y.andThen g) := by
  cases h with
  | ok hab => exact hf _ _ hab
  | err he => exact .err he
  | top hu => exact .top hu

theorem ResRel.mono {α β : Type} {Q S : α → β → Prop} {x : Res α} {y : Res β}
    (h : ResRel E U Q x y) (hq : ∀ a b, Q a b → S a b) : ResRel E U S x y := by
  cases h with
  | ok hab => exact .ok (hq _ _ hab)
  | err he => exact .err he
  | top hu => exact .top hu

theorem ResRel.eq_mapOk {α β : Type} {x : Res α} {y : Res β} {g : α → β}
    (h : ResRel Eq (fun _ => False) (fun a b => b = g a) x y) : y = x.mapOk g := by
  cases h with
  | ok hab => rw [hab]; rfl
  | err he => rw [he]; rfl
  | top hu => exact hu.elim

/-- `popI i i'` / `pushI i i'`: the left machine may pop from (push to) stack `i` while the right one pops from (pushes
to) `i'`.  `E` relates the stops of the two sides, a stop in `U` on the right excuses the left side (see `ResRel`).  A selected
stack is pushed to and popped from by later commands, hence both indices in `select` (`CmdI` supplies them) and in `cur`. -/
structure StepRel (E : Stop × World → Stop × World → Prop) (U : Stop × World → Prop)
    (RV : N → N' → Prop) (RM : M N → M N' → Prop) (popI pushI : Nat → Nat → Prop) : Prop where
  num : NumSim N N' RV
  pop : ∀ {m m' i i'}, RM m m' → popI i i' →
    ResRel E U (fun x y => RV x.1 y.1 ∧ RM x.2 y.2) (popWrap m i) (popWrap m' i')
  push : ∀ {m m' i i' n n'}, RM m m' → pushI i i' → RV n n' → ResRel E U RM (pushWrap m i n) (pushWrap m' i' n')
  cur : ∀ {m m'}, RM m m' → popI m.1.cur m'.1.cur ∧ pushI m.1.cur m'.1.cur
  select : ∀ {m m' i i'}, RM m m' → popI i i' → pushI i i' →
    RM ({ m.1 with cur := i }, m.2) ({ m'.1 with cur := i' }, m'.2)

variable {RV : N → N' → Prop} {RM : M N → M N' → Prop}

/-- The `pop` of a `StepRel`.  `hi`, `hs`: the two pops go the same way (the same I/O stack or neither is one; on stack 0
both are empty or neither is, and the same input is left).  `stop`: a stop relates the two worlds.  `line`: refilling both
stacks 0 with the line `l` just read keeps `RM`.  `raw`: raw pops (they come after the refill) give related values and
machines.  Not carried: `line` is not told that the stacks 0 were empty and that `l ≠ []`. -/
theorem popWrap_lift {m : M N} {m' : M N'} {i i' : Nat} (hm : RM m m') (hi : ∀ k ≤ 2, i = k ↔ i' = k)
    (hs : i = 0 → (m.1.stacks 0).isEmpty = (m'.1.stacks 0).isEmpty ∧ m.2.stdin = m'.2.stdin)
    (stop : ∀ e, E (e, m.2) (e, m'.2))
    (line : ∀ l rest, i = 0 → m'.2.stdin = l :: rest → RM (setStack m.1 0 (lineStack l), { m.2 with stdin := rest })
      (setStack m'.1 0 (lineStack l), { m'.2 with stdin := rest }))
    (raw : ∀ {a : M N} {b : M N'}, RM a b →
      RV (popRaw a.1 i).1 (popRaw b.1 i').1 ∧ RM ((popRaw a.1 i).2, a.2) ((popRaw b.1 i').2, b.2)) :
    ResRel E U (fun x y => RV x.1 y.1 ∧ RM x.2 y.2) (popWrap m i) (popWrap m' i') := by
  unfold popWrap
  by_cases h0 : i = 0
  · subst h0
    obtain rfl := (hi 0 (by decide)).1 rfl
    rw [if_pos rfl, if_pos rfl, (hs rfl).1, (hs rfl).2]
    cases (m'.1.stacks 0).isEmpty with
    | false => exact .ok (raw hm)
    | true =>
      match hst : m'.2.stdin with
      | [] => exact .ok (raw hm)
      | [] :: _ => exact .err (stop _)
      | (_ :: _) :: _ => exact .ok (raw (line _ _ rfl hst))
  · rw [if_neg h0, if_neg (mt (hi 0 (by decide)).2 h0)]
    by_cases h1 : i = 1
    · rw [if_pos h1, if_pos ((hi 1 (by decide)).1 h1)]
      exact .err (stop _)
    · rw [if_neg h1, if_neg (mt (hi 1 (by decide)).2 h1)]
      by_cases h2 : i = 2
      · rw [if_pos h2, if_pos ((hi 2 (by decide)).1 h2)]
        exact .err (stop _)
      · rw [if_neg h2, if_neg (mt (hi 2 (by decide)).2 h2)]
        exact .ok (raw hm)

/-- The `push` of a `StepRel`.  `hi`: the two pushes go the same way (the same output stack or neither is one).  `render`:
the two values are written alike, or the right one is not written at all and that stop is in `U`.  `text`: writing the same
text to stream `i` of both worlds keeps `RM` (where something is written, `i' = i`). -/
theorem pushWrap_lift {m : M N} {m' : M N'} {i i' : Nat} {n : N} {n' : N'} (hi : ∀ k, k = 1 ∨ k = 2 → (i = k ↔ i' = k))
    (render : (NumOps.render n' = .unspecified ∧ U (.unspecified, m'.2)) ∨ NumOps.render n = NumOps.render n')
    (stop : ∀ e, E (e, m.2) (e, m'.2)) (text : ∀ cs, RM (m.1, emit m.2 i cs) (m'.1, emit m'.2 i cs))
    (raw : RM (pushRaw m.1 i n, m.2) (pushRaw m'.1 i' n', m'.2)) : ResRel E U RM (pushWrap m i n) (pushWrap m' i' n') := by
  have h1 := hi 1 (.inl rfl)
  have h2 := hi 2 (.inr rfl)
  unfold pushWrap
  by_cases h : i = 1 ∨ i = 2
  · obtain rfl : i' = i := h.elim (fun e => (h1.mp e).trans e.symm) fun e => (h2.mp e).trans e.symm
    rw [if_pos h, if_pos h]
    rcases render with ⟨hu, hU⟩ | he
    · rw [hu]; exact .top hU
    · rw [he]
      cases NumOps.render n' with
      | text cs => exact .ok (text cs)
      | encErr k => exact .err (stop _)
      | unspecified => exact .err (stop _)
  · rw [if_neg h, if_neg (mt (Or.imp h1.mpr h2.mpr) h)]
    exact .ok raw

/-- the jump part of a step respects the relation (needed from `stepCmd` on) -/
def JumpRel (RM : M N → M N' → Prop) : Prop :=
  ∀ {m m'}, RM m m' → ∀ (c : Cmd) (loc t : Nat),
    RM ((jump m.1 c loc t).1, m.2) ((jump m'.1 c loc t).1, m'.2) ∧ (jump m.1 c loc t).2 = (jump m'.1 c loc t).2

omit [NumOps N] [NumOps N'] in
/-- `jump` reads and writes only the label table and the return target -/
theorem JumpRel.of (hctl : ∀ {m m'}, RM m m' → m.1.points = m'.1.points ∧ m.1.latest = m'.1.latest)
    (hset : ∀ {m m'}, RM m m' → ∀ pts lat,
      RM ({ m.1 with points := pts, latest := lat }, m.2) ({ m'.1 with points := pts, latest := lat }, m'.2)) :
    JumpRel RM := by
  intro m m' h c loc t
  obtain ⟨hp, hl⟩ := hctl h
  by_cases h0 : t = 0
  · subst h0
    exact ⟨h, rfl⟩
  by_cases h13 : t = 13
  · subst h13
    rw [jump_ret, jump_ret, hl]
    exact ⟨h, rfl⟩
  cases hlk : lookup m.1.points (c.areaCount * 16 + t) with
  | none =>
    rw [jump_new h0 h13 hlk, jump_new h0 h13 (hp ▸ hlk), ← hp, ← hl]
    exact ⟨hset h _ _, rfl⟩
  | some v =>
    rw [jump_to h0 h13 hlk, jump_to h0 h13 (hp ▸ hlk)]
    split
    · rw [← hp]
      exact ⟨hset h _ _, rfl⟩
    · exact ⟨h, rfl⟩

/-- corresponding commands: the same command up to its stack operand -/
structure CmdI (popI pushI : Nat → Nat → Prop) (c c' : Cmd) : Prop where
  kind : c'.kind = c.kind
  hangul : c'.hangul = c.hangul
  areaCount : c'.areaCount = c.areaCount
  area : c'.area = c.area
  /-- for `형` (kind 0) `dots` is a factor of the number pushed, not a stack -/
  dots0 : c.kind = 0 → c'.dots = c.dots
  push : c.kind ≠ 0 → pushI c.dots c'.dots
  /-- `흑` selects stack `dots`, from which later commands pop; `execCmd` takes every kind from 5 on for `흑` -/
  pop : 5 ≤ c.kind → popI c.dots c'.dots

theorem CmdI.same {popI pushI : Nat → Nat → Prop} {c : Cmd} (hpush : c.kind ≠ 0 → pushI c.dots c.dots)
    (hpop : 5 ≤ c.kind → popI c.dots c.dots) : CmdI popI pushI c c :=
  ⟨rfl, rfl, rfl, rfl, fun _ => rfl, hpush, hpop⟩

/-- corresponding programs: corresponding commands at every index -/
def ProgI (popI pushI : Nat → Nat → Prop) (p p' : List Cmd) : Prop :=
  p'.length = p.length ∧ ∀ i : Nat, Option.Rel (CmdI popI pushI) p[i]? p'[i]?

theorem ProgI.same {popI pushI : Nat → Nat → Prop} {p : List Cmd} (h : ∀ c ∈ p, CmdI popI pushI c c) : ProgI popI pushI p p :=
  ⟨rfl, fun i => by
    cases h1 : p[i]? with
    | none => exact .none
    | some c => exact .some (h c (List.mem_of_getElem? h1))⟩

variable {popI pushI : Nat → Nat → Prop}

theorem StepRel.popN (h : StepRel E U RV RM popI pushI) {i i' : Nat} (hi : popI i i') :
    ∀ (k : Nat) {m : M N} {m' : M N'}, RM m m' →
    ResRel E U (fun x y => LR RV x.1 y.1 ∧ RM x.2 y.2) (popN m i k) (popN m' i' k) := by
  intro k
  induction k with
  | zero => intro m m' hm; exact .ok ⟨.nil, hm⟩
  | succ k ih =>
    intro m m' hm
    exact (h.pop hm hi).andThen fun a b hab => (ih hab.2).andThen fun c d hcd => .ok ⟨.cons hab.1 hcd.1, hcd.2⟩

theorem StepRel.pushAll (h : StepRel E U RV RM popI pushI) {i i' : Nat} (hi : pushI i i') :
    ∀ {l : List N} {l' : List N'}, LR RV l l' → ∀ {m : M N} {m' : M N'}, RM m m' →
    ResRel E U RM (pushAll m i l) (pushAll m' i' l') := by
  intro l l' hl
  induction hl with
  | nil => intro m m' hm; exact .ok hm
  | cons hab _ ih => intro m m' hm; exact (h.push hm hi hab).andThen fun a b h2 => ih h2

theorem StepRel.execCmd (h : StepRel E U RV RM popI pushI) {m : M N} {m' : M N'} (hm : RM m m') {c c' : Cmd}
    (hc : CmdI popI pushI c c') : ResRel E U RM (execCmd m c) (execCmd m' c') := by
  have hs := h.num
  obtain ⟨hpo, hpu⟩ := h.cur hm
  by_cases hk : c.kind = 0
  · rw [exec_push hk, exec_push (hc.kind.trans hk), hc.hangul, hc.dots0 hk]
    exact h.push hm hpu (hs.mul (hs.ofNat _) (hs.ofNat _))
  have hd := hc.push hk
  unfold HyE.execCmd
  rw [hc.kind, hc.hangul]
  split
  · exact absurd ‹c.kind = 0› hk
  · exact (h.popN hpo _ hm).andThen fun a b hab => h.push hab.2 hd (LR.foldl hs.add hab.1 hs.zero)
  · exact (h.popN hpo _ hm).andThen fun a b hab => h.push hab.2 hd (LR.foldl hs.mul hab.1 hs.one)
  · refine (h.popN hpo _ hm).andThen fun a b hab => ?_
    have hys := LR.map hs.neg hab.1.reverse
    exact (h.pushAll hpu hys hab.2).andThen fun a2 b2 h2 => h.push h2 hd (LR.foldl hs.add hys hs.zero)
  · refine (h.popN hpo _ hm).andThen fun a b hab => ?_
    have hys := LR.map hs.inv hab.1.reverse
    exact (h.pushAll hpu hys hab.2).andThen fun a2 b2 h2 => h.push h2 hd (LR.foldl hs.mul hys hs.one)
  · rename_i h1 h2 h3 h4
    -- by hand: `omega` would split on every disequality in the context, and the `match` has left each of them twice
    have hk5 : 5 ≤ c.kind := Nat.lt_of_le_of_ne (Nat.lt_of_le_of_ne (Nat.lt_of_le_of_ne (Nat.lt_of_le_of_ne
      (Nat.pos_of_ne_zero hk) (Ne.symm h1)) (Ne.symm h2)) (Ne.symm h3)) (Ne.symm h4)
    exact (h.pop hm hpo).andThen fun a b hab =>
      (h.pushAll hd (LR.replicate _ hab.1) hab.2).andThen fun a2 b2 h2 =>
        (h.push h2 hpu hab.1).andThen fun a3 b3 h3 => .ok (h.select h3 (hc.pop hk5) hd)

theorem StepRel.areaCalc (h : StepRel E U RV RM popI pushI) (cnt : Nat) :
    ∀ (a : Area) {m : M N} {m' : M N'}, RM m m' →
    ResRel E U (fun x y => x.1 = y.1 ∧ RM x.2 y.2) (areaCalc m cnt a) (areaCalc m' cnt a) := by
  intro a
  induction a with
  | nil => intro m m' hm; exact .ok ⟨rfl, hm⟩
  | val t l r ihl ihr =>
    intro m m' hm
    rw [areaCalc_val, areaCalc_val]
    by_cases ht : t ≤ 1
    · rw [if_pos ht, if_pos ht]
      refine (h.pop hm (h.cur hm).1).andThen fun a b hab => ?_
      rw [h.num.cmp hab.1 (h.num.ofNat cnt)]
      generalize (if t = 0 then Ordering.lt else Ordering.eq) = o
      split
      · exact ihl hab.2
      · exact ihr hab.2
    · rw [if_neg ht, if_neg ht]
      exact .ok ⟨rfl, hm⟩

theorem StepRel.stepCmd (h : StepRel E U RV RM popI pushI) (hj : JumpRel RM) {m : M N} {m' : M N'} (hm : RM m m') {c c' : Cmd}
    (hc : CmdI popI pushI c c') (loc : Nat) :
    ResRel E U (fun x y => RM x.1 y.1 ∧ x.2 = y.2) (stepCmd m c loc) (stepCmd m' c' loc) := by
  unfold HyE.stepCmd
  rw [hc.areaCount, hc.area]
  refine (h.execCmd hm hc).andThen fun a b hab => (h.areaCalc _ _ hab).andThen fun a2 b2 h2 => ?_
  rw [jump_areaCount _ hc.areaCount, ← h2.1]
  exact .ok (hj h2.2 c loc a2.1)

theorem StepRel.step (h : StepRel E U RV RM popI pushI) (hj : JumpRel RM) {p p' : List Cmd} (hp : ProgI popI pushI p p')
    {c : Cfg N} {c' : Cfg N'} (hm : RM c.m c'.m) (hl : c.loc = c'.loc) :
    ResRel E U (fun x y => RM x.m y.m ∧ x.loc = y.loc) (step p c) (step p' c') := by
  unfold HyE.step
  rw [← hl]
  have hc := hp.2 c.loc
  generalize p[c.loc]? = o, p'[c.loc]? = o' at hc ⊢
  cases hc with
  | none => exact .ok ⟨hm, hl⟩
  | some hc => exact (h.stepCmd hj hm hc _).andThen fun a b hab => .ok hab

/-- observable part of a run: the world, where control is, how it stands -/
def obs (x : Cfg N × Status) : World × Nat × Status := (x.1.m.2, x.1.loc, x.2)

/-- lock step, for a relation that compares the states by `S` and wants the same world — unless the right-hand run has stopped
in `U` -/
theorem StepRel.runN {S : St N → St N' → Prop} (h : StepRel Eq U RV (fun m m' => S m.1 m'.1 ∧ m.2 = m'.2) popI pushI)
    (hj : JumpRel fun (m : M N) (m' : M N') => S m.1 m'.1 ∧ m.2 = m'.2) {p p' : List Cmd} (hp : ProgI popI pushI p p') :
    ∀ (n : Nat) {c : Cfg N} {c' : Cfg N'}, S c.m.1 c'.m.1 → c.m.2 = c'.m.2 → c.loc = c'.loc →
    (∃ e, U e ∧ (runN p' n c').2 = .stopped e.1) ∨
    (obs (runN p n c) = obs (runN p' n c') ∧ S (runN p n c).1.m.1 (runN p' n c').1.m.1) := by
  intro n
  induction n with
  | zero =>
    intro c c' hs hw hl
    exact .inr ⟨by simp only [HyE.runN, obs, hw, hl, hp.1], hs⟩
  | succ n ih =>
    intro c c' hs hw hl
    simp only [HyE.runN]
    rw [← hl, hp.1]
    split
    · have h1 := h.step hj hp ⟨hs, hw⟩ hl
      generalize HyE.step p c = x at h1 ⊢
      generalize HyE.step p' c' = y at h1 ⊢
      cases h1 with
      | ok hab => exact ih hab.1.1 hab.1.2 hab.2
      | err he => subst he; exact .inr ⟨by simp only [obs, hl], hs⟩
      | top hu => exact .inl ⟨_, hu, rfl⟩
    · exact .inr ⟨by simp only [obs, hw, hl], hs⟩

end HyE
