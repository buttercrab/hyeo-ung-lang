import Hyeong.Lemmas.BigBasic
/-!
`mult_core`: schoolbook rows added into `u64` accumulators. The value is the product, and every accumulator ends
below `B`, so the final `as u32` truncates nothing (`multCore_spec`).
-/
namespace HyB

theorem rowAcc_length (x : Nat) : ∀ (rs vs : List Nat), (rowAcc x rs vs).length = vs.length
  | [], _ => rfl
  | _ :: _, [] => rfl
  | _ :: _, [_] => rfl
  | _ :: rs, _ :: _ :: _ => congrArg (· + 1) (rowAcc_length x rs _)

theorem acc_div (m t : Nat) : t / B + (m + t % B) / B = (m + t) / B := by
  rw [Nat.add_comm, ← Nat.add_mul_div_left _ _ B_pos, Nat.add_assoc, Nat.mod_add_div]

theorem rowAcc_cons (x r v0 v1 : Nat) (rs vs : List Nat) : rowAcc x (r :: rs) (v0 :: v1 :: vs) =
    (v0 + x * r) % B :: rowAcc x rs ((v1 + (v0 + x * r) / B) :: vs) := by
  show (v0 + x * r % B) % B :: rowAcc x rs ((v1 + x * r / B + (v0 + x * r % B) / B) :: vs) = _
  rw [Nat.add_mod_mod, Nat.add_assoc, acc_div]

/-- with `B = b + 1`: `b + b + b * b < (b + 1) * (b + 1)` -/
theorem carry_lt {x r o c : Nat} (hx : x < B) (hr : r < B) (ho : o < B) (hc : c < B) : (o + c + x * r) / B < B := by
  obtain ⟨b, hb⟩ := Nat.exists_eq_succ_of_ne_zero (Nat.ne_of_gt B_pos)
  rw [hb, Nat.lt_succ_iff] at hx hr ho hc
  rw [hb, Nat.div_lt_iff_lt_mul (Nat.succ_pos b), Nat.succ_mul_succ, Nat.add_comm (o + c), ← Nat.add_assoc]
  exact Nat.lt_succ_of_le (Nat.add_le_add (Nat.add_le_add (Nat.mul_le_mul hx hr) ho) hc)

/-- a column sum `m` leaves the limb `m % B` and carries `m / B` into the higher limbs `V` -/
theorem limb_carry (m V : Nat) : m % B + B * (V + m / B) = m + B * V := by
  rw [Nat.mul_add, Nat.add_left_comm, Nat.mod_add_div, Nat.add_comm]

/-- the column sums of a row regrouped: accumulator, pending carry, `x` times the operand -/
theorem row_column (l c x r VL VR : Nat) :
    l + c + x * r + B * (VL + x * VR) = l + B * VL + c + x * (r + B * VR) := by
  rw [Nat.mul_add, Nat.mul_add, Nat.mul_left_comm B, Nat.add_add_add_comm, Nat.add_right_comm l c]

theorem acc_cons (lo zs : List Nat) : ∃ v vs, lo ++ 0 :: zs = v :: vs := by
  cases lo <;> exact ⟨_, _, rfl⟩

/-- One row. The Rust loop keeps the pending carry `c` added into the head of the accumulator `o :: vs`. Without it the
accumulator is `lo ++ 0 :: zs`: what earlier rows wrote at the positions of `rs`, then limbs not reached yet, the first
of which takes the last carry. -/
theorem rowAcc_spec {x : Nat} (hx : x < B) : ∀ (rs lo : List Nat) (o : Nat) (vs : List Nat) (c : Nat) (zs : List Nat),
    lo ++ 0 :: zs = o :: vs → Limbs rs → lo.length = rs.length → Limbs lo → c < B →
    ∃ out, rowAcc x rs ((o + c) :: vs) = out ++ zs ∧ out.length = rs.length + 1 ∧ Limbs out ∧
      value out = value lo + c + x * value rs := by
  intro rs
  induction rs with
  | nil =>
    intro lo o vs c zs e _ hl _ hc
    obtain rfl := List.length_eq_zero_iff.mp hl
    cases e
    rw [Nat.zero_add]
    exact ⟨[c], rfl, rfl, limbs_cons.mpr ⟨hc, limbs_nil⟩, (Nat.zero_add c).symm⟩
  | cons r rs ih =>
    intro lo o vs c zs e hrs hl hlo hc
    obtain ⟨l, lo, rfl⟩ := List.exists_cons_of_length_eq_add_one hl
    obtain ⟨rfl, rfl⟩ := List.cons.inj (List.cons_append ▸ e)
    obtain ⟨v, vs, e⟩ := acc_cons lo zs
    obtain ⟨out, ho, hlen, hlim, hv⟩ := ih lo v vs _ zs e hrs.tail (Nat.succ.inj hl) hlo.tail
      (carry_lt hx hrs.head hlo.head hc)
    refine ⟨(l + c + x * r) % B :: out, ?_, congrArg (· + 1) hlen, limbs_cons.mpr ⟨Nat.mod_lt _ B_pos, hlim⟩, ?_⟩
    · rw [e, rowAcc_cons, ho]; rfl
    · -- the column `l + c + x * r` leaves its limb here; `hv` has its carry among the higher limbs
      rw [value, hv, Nat.add_right_comm (value lo), limb_carry]
      exact row_column ..

theorem rowAcc_zero : ∀ (rs vs : List Nat), Limbs vs → rowAcc 0 rs vs = vs
  | [], _, _ => rfl
  | _ :: _, [], _ => rfl
  | _ :: _, [_], _ => rfl
  | r :: rs, v0 :: v1 :: vs, h => by
    have h0 := h.head
    rw [rowAcc_cons, Nat.zero_mul, Nat.add_zero, Nat.mod_eq_of_lt h0, Nat.div_eq_of_lt h0, Nat.add_zero,
      rowAcc_zero rs (v1 :: vs) h.tail]

theorem multRows_nil (rs vs : List Nat) : multRows [] rs vs = vs := rfl

theorem multRows_cons {x v w : Nat} {rs vs ws : List Nat} (xs : List Nat) (hv : Limbs (v :: vs))
    (h : rowAcc x rs (v :: vs) = w :: ws) : multRows (x :: xs) rs (v :: vs) = w :: multRows xs rs ws := by
  by_cases hx : x = 0
  · subst hx; rw [rowAcc_zero rs _ hv] at h; cases h; rfl
  · refine (if_neg hx).trans ?_
    rw [h]

/-- `lo`: what earlier rows wrote at the positions the next row reaches; nothing beyond is written yet -/
theorem multRows_spec {rs : List Nat} (hrs : Limbs rs) : ∀ (xs lo acc : List Nat), Limbs xs → lo.length = rs.length →
    Limbs lo → acc = lo ++ List.replicate (xs.length + 1) 0 →
    Limbs (multRows xs rs acc) ∧ value (multRows xs rs acc) = value lo + value xs * value rs ∧
    (multRows xs rs acc).length = acc.length := by
  intro xs
  induction xs with
  | nil =>
    rintro lo _ _ - hlo rfl
    rw [multRows_nil, value_append, value_replicate_zero, Nat.mul_zero]
    exact ⟨limbs_append hlo (limbs_replicate_zero 1), congrArg _ (Nat.zero_mul _).symm, rfl⟩
  | cons x xs ih =>
    rintro lo _ hxs hl hlo rfl
    obtain ⟨v, vs, e⟩ := acc_cons lo (List.replicate (xs.length + 1) 0)
    obtain ⟨out, ho, hlen, hlim, hv⟩ := rowAcc_spec hxs.head rs lo v vs 0 _ e hrs hl hlo B_pos
    obtain ⟨w, ws, rfl⟩ := List.exists_cons_of_length_eq_add_one hlen
    obtain ⟨hl', hv', hlen'⟩ := ih ws _ hxs.tail (Nat.succ.inj hlen) hlim.tail rfl
    have hacc : Limbs (v :: vs) := e ▸ limbs_append hlo (limbs_replicate_zero (xs.length + 2))
    rw [List.length_cons, List.replicate_succ, e, multRows_cons xs hacc (ho.trans List.cons_append)]
    refine ⟨limbs_cons.mpr ⟨hlim.head, hl'⟩, ?_,
      (congrArg (· + 1) hlen').trans ((congrArg List.length ho).symm.trans (rowAcc_length x rs _))⟩
    rw [value, Nat.add_zero] at hv
    rw [value, value, hv', Nat.mul_add, ← Nat.add_assoc, hv, Nat.add_mul, Nat.mul_assoc, Nat.add_assoc]

theorem map_mod_of_limbs {v : List Nat} (h : Limbs v) : v.map (· % B) = v :=
  (List.map_congr_left fun x hx => Nat.mod_eq_of_lt (h x hx)).trans (List.map_id v)

theorem multCore_spec {l r : List Nat} (hl : Limbs l) (hr : Limbs r) :
    value (multCore l r) = value l * value r ∧ Limbs (multCore l r) ∧
    (multCore l r).length = l.length + r.length + 1 := by
  obtain ⟨hlim, hval, hlen⟩ := multRows_spec hr l (List.replicate r.length 0)
    (List.replicate (l.length + r.length + 1) 0) hl List.length_replicate (limbs_replicate_zero _)
    (by rw [List.replicate_append_replicate, Nat.add_comm l.length, Nat.add_assoc])
  rw [multCore, map_mod_of_limbs hlim]
  exact ⟨by rw [hval, value_replicate_zero, Nat.zero_add], hlim, hlen.trans List.length_replicate⟩

end HyB
