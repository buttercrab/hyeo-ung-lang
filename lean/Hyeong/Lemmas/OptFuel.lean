import Hyeong.Model.Optimize
/-!
# C10: pre-execution always finishes
-/
namespace HyE
variable {N : Type} [NumOps N]

omit [NumOps N] in
-- by unfolding, not from `jump_cases`: this file imports only the model, to stay off the long import chain
theorem jump_not_jumped (s : St N) (c : Cmd) (loc t : Nat) (h : jumped s c loc t = false) :
    (jump s c loc t).2 = loc + 1 := by
  unfold jumped at h
  unfold jump
  by_cases h0 : t ≠ 0
  · rw [if_pos h0] at h ⊢
    by_cases h13 : t ≠ 13
    · rw [if_pos h13] at h ⊢
      dsimp only
      cases hlk : lookup s.points (c.areaCount * 16 + t) with
      | none => rfl
      | some v =>
        rw [hlk] at h
        dsimp only
        rw [if_neg (of_decide_eq_false h)]
    · rw [if_neg h13] at h ⊢
      cases hl : s.latest with
      | none => rfl
      | some l => rw [hl] at h; cases h
  · rw [if_neg h0]

theorem pred_mul_add_lt {a b x : Nat} (ha : 0 < a) (hx : x < b) : (a - 1) * b + x < a * b := by
  cases a with
  | zero => cases ha
  | succ a => rw [Nat.add_sub_cancel, Nat.succ_mul]; exact Nat.add_lt_add_left hx _

/-- An iteration either takes one of at most `budget` jumps or moves one command on towards `k + 1` (wherever a jump lands,
`k + 1 - loc ≤ k + 1`), so `(budget - cnt)·(k+2) + (k+1-loc)` iterations always suffice. -/
theorem optLoop_fuel (budget : Nat) (p : List Cmd) (k : Nat) :
    ∀ (fuel : Nat) (m : M N) (loc cnt : Nat), (budget - cnt) * (k + 2) + (k + 1 - loc) < fuel →
    optLoop budget p k fuel m loc cnt = optLoop budget p k (fuel + 1) m loc cnt := by
  intro fuel
  induction fuel with
  | zero => intro m loc cnt h; cases h
  | succ fuel ih =>
    intro m loc cnt hfuel
    -- both sides unfold to the body of the loop, with `fuel` and `fuel + 1` in the recursive call
    refine ite_congr rfl (fun _ => rfl) fun h1 => ite_congr rfl (fun _ => rfl) fun h2 => ?_
    cases p[loc]? with
    | none => rfl
    | some c =>
      refine ite_congr rfl (fun _ => rfl) fun _ => ?_
      cases execCmd m c with
      | error e => rfl
      | ok m1 =>
        refine ite_congr rfl (fun _ => rfl) fun _ => ?_
        cases areaCalc m1 c.areaCount c.area with
        | error e => rfl
        | ok r =>
          apply ih
          cases hjm : jumped r.2.1 c loc r.1
          · rw [jump_not_jumped _ _ _ _ hjm, if_neg Bool.false_ne_true]
            exact Nat.lt_of_lt_of_le (Nat.add_lt_add_left (Nat.sub_succ_lt_self _ _ (Nat.lt_of_not_le h1)) _)
              (Nat.le_of_lt_succ hfuel)
          · rw [if_pos rfl, Nat.sub_add_eq]
            exact Nat.lt_of_lt_of_le
              (pred_mul_add_lt (Nat.sub_pos_of_lt (Nat.lt_of_not_le h2)) (Nat.lt_succ_of_le (Nat.sub_le (k + 1) _)))
              (Nat.le_of_lt_succ (Nat.lt_of_le_of_lt (Nat.le_add_right _ _) hfuel))

theorem optFuel_enough (budget : Nat) (p : List Cmd) (k : Nat) (m : M N) (extra : Nat) :
    optLoop budget p k (optFuel budget k + extra) m k 0 = optLoop budget p k (optFuel budget k) m k 0 := by
  induction extra with
  | zero => rfl
  | succ e ih =>
    rw [← ih]
    refine (optLoop_fuel budget p k (optFuel budget k + e) m k 0 ?_).symm
    rw [Nat.sub_zero, Nat.add_sub_cancel_left]
    exact Nat.lt_of_lt_of_le
      (Nat.add_lt_add_right (Nat.mul_lt_mul_of_pos_right (Nat.lt_succ_self budget) (Nat.succ_pos _)) 1) (Nat.le_add_right _ e)

end HyE
