import Hyeong.Lemmas.StepRel
/-!
# the command and area parts of a step do not look at the label table / return target

Transport lemmas: replacing `points`/`latest` before a command = replacing them afterwards.
(Used by C03: the compiled program keeps block indices there, the interpreter command indices.)
-/
namespace HyE
open HyP (Area)
set_option linter.unusedSectionVars false
variable {N : Type} [NumOps N]

def ctl (pts : List (Nat × Nat)) (lat : Option Nat) (s : St N) : St N := { s with points := pts, latest := lat }
def ctlM (pts : List (Nat × Nat)) (lat : Option Nat) (m : M N) : M N := (ctl pts lat m.1, m.2)

variable (pts : List (Nat × Nat)) (lat : Option Nat)

theorem setStack_tr (s : St N) (i : Nat) (l : List N) : setStack (ctl pts lat s) i l = ctl pts lat (setStack s i l) := rfl

theorem pushRaw_tr (s : St N) (i : Nat) (n : N) : pushRaw (ctl pts lat s) i n = ctl pts lat (pushRaw s i n) := by
  unfold pushRaw
  show (if ((s.stacks i).isEmpty && NumOps.isNan n) = true then _ else _) = _
  split <;> rfl

theorem popRaw_tr (s : St N) (i : Nat) : popRaw (ctl pts lat s) i = ((popRaw s i).1, ctl pts lat (popRaw s i).2) := by
  have e : (ctl pts lat s).stacks i = s.stacks i := rfl
  unfold popRaw
  rw [e]
  cases s.stacks i <;> rfl

/-- replacing the control part is a simulation of the command and area parts (not of `jump`) -/
theorem stepRel_ctl : StepRel Eq (fun _ => False) Eq (fun (m m' : M N) => m' = ctlM pts lat m) Eq Eq where
  num := .refl N
  pop := by
    rintro m _ i _ rfl rfl
    exact popWrap_lift (RM := fun m m' => m' = ctlM pts lat m) rfl (hi := fun _ _ => .rfl) (hs := fun _ => ⟨rfl, rfl⟩)
      (stop := fun _ => rfl) (line := fun _ _ _ _ => rfl)
      (raw := fun hab => by subst hab; exact ⟨by rw [ctlM, popRaw_tr], by rw [ctlM, popRaw_tr]; rfl⟩)
  push := by
    rintro m _ i _ n _ rfl rfl rfl
    exact pushWrap_lift (hi := fun _ _ => .rfl) (render := .inr rfl) (stop := fun _ => rfl) (text := fun _ => rfl)
      (raw := by rw [ctlM, pushRaw_tr]; rfl)
  cur := by rintro m _ rfl; exact ⟨rfl, rfl⟩
  select := by rintro m _ i _ rfl rfl _; rfl

theorem execCmd_tr (m : M N) (c : Cmd) : execCmd (ctlM pts lat m) c = (execCmd m c).mapOk (ctlM pts lat) :=
  ((stepRel_ctl pts lat).execCmd rfl (.same (fun _ => rfl) (fun _ => rfl))).eq_mapOk

theorem areaCalc_tr (cnt : Nat) (ar : Area) (m : M N) :
    areaCalc (ctlM pts lat m) cnt ar = (areaCalc m cnt ar).mapOk (fun r => (r.1, ctlM pts lat r.2)) :=
  ResRel.eq_mapOk (g := fun r => (r.1, ctlM pts lat r.2))
    (((stepRel_ctl pts lat).areaCalc cnt ar rfl).mono fun _ _ h => Prod.ext h.1.symm h.2)

/-- the command and area parts leave the control part alone: put in what is there -/
theorem execCmd_ctl {m : M N} {c : Cmd} {a : M N} (h : execCmd m c = .ok a) :
    a.1.points = m.1.points ∧ a.1.latest = m.1.latest := by
  have e := execCmd_tr m.1.points m.1.latest m c
  rw [show ctlM m.1.points m.1.latest m = m from rfl, h] at e
  have e := Except.ok.inj e
  exact ⟨congrArg (·.1.points) e, congrArg (·.1.latest) e⟩

theorem areaCalc_ctl {cnt : Nat} {ar : Area} {m : M N} {a : Nat × M N} (h : areaCalc m cnt ar = .ok a) :
    a.2.1.points = m.1.points ∧ a.2.1.latest = m.1.latest := by
  have e := areaCalc_tr m.1.points m.1.latest cnt ar m
  rw [show ctlM m.1.points m.1.latest m = m from rfl, h] at e
  have e := Except.ok.inj e
  exact ⟨congrArg (·.2.1.points) e, congrArg (·.2.1.latest) e⟩

end HyE
