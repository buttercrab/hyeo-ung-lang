import Hyeong.Lemmas.SimNum
import Hyeong.Lemmas.NumText
import Hyeong.Lemmas.ExecPost
import Hyeong.Lemmas.Runs
/-!
# numbers up to the representation of NaN

`Num::from_string` of a displayed NaN gives the canonical NaN `1/0`; the interpreter may hold other
representations (`-1/0` after a negation). `NE` identifies them; every operation, comparison and
rendering respects it (a self-simulation of `NumI`, obtained from the simulation by the rationals).
-/
namespace HyE
open HyN

def NE (a b : NumI) : Prop := ∃ q : V, RN a q ∧ RN b q

theorem ne_render {a b : NumI} (h : NE a b) : renderNumI a = renderNumI b := by
  obtain ⟨q, ha, hb⟩ := h
  cases q with
  | none => rw [render_nan (rn_none.mp ha), render_nan (rn_none.mp hb)]
  | some p => rw [rn_some.mp ha, rn_some.mp hb]

theorem neSim : NumSim NumI NumI NE where
  zero := ⟨_, numSim.zero, numSim.zero⟩
  one := ⟨_, numSim.one, numSim.one⟩
  nan := ⟨_, numSim.nan, numSim.nan⟩
  ofNat n := ⟨_, numSim.ofNat n, numSim.ofNat n⟩
  add h k := h.elim fun _ h => k.elim fun _ k => ⟨_, numSim.add h.1 k.1, numSim.add h.2 k.2⟩
  mul h k := h.elim fun _ h => k.elim fun _ k => ⟨_, numSim.mul h.1 k.1, numSim.mul h.2 k.2⟩
  neg h := h.elim fun _ h => ⟨_, numSim.neg h.1, numSim.neg h.2⟩
  inv h := h.elim fun _ h => ⟨_, numSim.inv h.1, numSim.inv h.2⟩
  isNan h := h.elim fun _ h => (numSim.isNan h.1).trans (numSim.isNan h.2).symm
  cmp h k := h.elim fun _ h => k.elim fun _ k => (numSim.cmp h.1 k.1).trans (numSim.cmp h.2 k.2).symm
  render h := Or.inr (ne_render h)

/-- `Num::from_string(n.to_string())` succeeds and gives `n` back, up to the representation of NaN -/
theorem ne_restore (n : NumI) (h : Valid n) : ∃ n', fromString (display n) = some n' ∧ NE n' n := by
  have rt := num_roundtrip n h
  rcases h with hc | hn
  · exact ⟨n, rt.1 hc, _, .canon hc, .canon hc⟩
  · exact ⟨nan, rt.2 hn, none, rn_none.mpr rfl, rn_none.mpr (decide_eq_true hn)⟩

/-! ### runs over the model numbers -/

/-- "unspecified" is a verdict of the language definition only -/
theorem runN_not_unspecified {N : Type} [NumOps N] (hR : ∀ n : N, NumOps.render n ≠ .unspecified) (p : List Cmd)
    (n : Nat) (c : Cfg N) : (runN p n c).2 ≠ .stopped .unspecified := by
  intro h
  obtain ⟨_, _, c1, _, _, hs⟩ := runN_stopped h
  match step_stop p c1 hs with
  | .push (.unspec hr) => exact hR _ hr

theorem renderNumI_spec (n : NumI) : renderNumI n ≠ .unspecified := by
  unfold renderNumI
  split
  · dsimp only; split <;> simp
  · simp

theorem runN_ne (p : List Cmd) (n : Nat) {c c' : Cfg NumI} (h : RCfg NE c c') :
    obs (runN p n c) = obs (runN p n c') ∧ RS NE (runN p n c).1.m.1 (runN p n c').1.m.1 :=
  (runN_sim neSim p n h).resolve_left (runN_not_unspecified renderNumI_spec p n c')

theorem iterOk_ne {p : List Cmd} {j : Nat} {c c' : Cfg NumI} (h : iterOk p j c = some c') (hc : RCfg NE c c) :
    RS NE c'.m.1 c'.m.1 := by
  have := (runN_ne p j hc).2
  rwa [runN_of_iterOk h] at this

end HyE
