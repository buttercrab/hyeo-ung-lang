import Hyeong.Lemmas.DbgTrans
import Hyeong.Lemmas.WorldSim
import Hyeong.Lemmas.Runs
/-!
# the history against the interpreter's run; `run` in the debugger up to the first breakpoint
-/
namespace HyE
open HyP
variable {N : Type} [NumOps N]

/-- a command of a program that never selects stack 0, run with stack 0 not selected, reaches the same state and location
whatever the world holds (nothing is read), and leaves stack 0 unselected -/
theorem stepCmd_indep {s s' : St N} {c : Cmd} {loc l' : Nat} {w1 w1' : World} (hcur : s.cur ≠ 0) (hc : NoIn c)
    (h : stepCmd (s, w1) c loc = .ok ((s', w1'), l')) (w2 : World) :
    s'.cur ≠ 0 ∧ ∃ w2', stepCmd (s, w2) c loc = .ok ((s', w2'), l') := by
  -- `stepCmd_0` at the trivial world relation; its `top` case is `False`
  have f := stepCmd_0 (N := N) (Rw := fun _ _ => True) (fun _ _ _ => trivial) (a := (s, w1)) (b := (s, w2))
    ⟨rfl, hcur, trivial⟩ c hc loc
  rw [h] at f
  generalize stepCmd (s, w2) c loc = x at f ⊢
  cases f with
  | @ok _ rb hq =>
    obtain ⟨⟨hs, hcur', _⟩, hl⟩ := hq
    simp only at hs hl hcur'
    exact ⟨hcur', rb.1.2, by rw [hs, hl]⟩
  | top hu => exact hu.elim

/-- `top.st.cur ≠ 0` is the invariant of the induction: `stepCmd_indep` needs it of the snapshot before -/
theorem chain_run {code : List Cmd} (hn : ∀ c ∈ code, NoIn c) {rest : List (Snap N)} {top : Snap N}
    (hc : Chain code (top :: rest)) : top.st.cur ≠ 0 ∧ ∀ w0 : World,
      ∃ w', iterOk code rest.length ⟨(St.init, w0), 0⟩ = some ⟨(top.st, w'), top.loc⟩ := by
  induction rest generalizing top with
  | nil =>
    obtain ⟨hst, hloc, _⟩ := hc
    rw [hst, hloc]
    exact ⟨Nat.succ_ne_zero 2, fun w0 => ⟨w0, rfl⟩⟩
  | cons old older ih =>
    obtain ⟨⟨c, w, w', hget, hstep, _⟩, hrest⟩ := hc
    obtain ⟨hcur, hrun⟩ := ih hrest
    have hind := stepCmd_indep hcur (hn c (List.mem_of_getElem? hget)) hstep
    refine ⟨(hind w).1, fun w0 => ?_⟩
    obtain ⟨wm, hm⟩ := hrun w0
    obtain ⟨w2', h2⟩ := (hind wm).2
    exact ⟨w2', iterOk_snoc hm (List.getElem?_eq_some_iff.mp hget).1 (by rw [step_at hget, h2]; rfl)⟩

variable [ShowN N]

/-- `k` commands executed one after the other by the debugger's step function (all succeed) -/
def dbgSteps (code : List Cmd) (lines : List (List Char)) : Nat → Dbg N → Option (Dbg N)
  | 0, d => some d
  | k+1, d =>
    match dbgStep code lines d with
    | .ok d' => dbgSteps code lines k d'
    | .error _ => none

theorem run_to_first_bp (fname : List Char) (pcode : List PCmd) (code : List Cmd) (lines : List (List Char)) :
    ∀ (k : Nat) (d dk : Dbg N) (shown : List Char) (fuel : Nat), d.running = true → d.hist ≠ [] →
    dbgSteps code lines k d = some dk →
    (∀ i, i < k → ∀ di, dbgSteps code lines i d = some di → di.loc < code.length ∧ d.bps.contains di.loc = false) →
    dk.loc < code.length → d.bps.contains dk.loc = true →
    debugLoop fname pcode code (fuel + k + 1) lines d shown =
      debugLoop fname pcode code fuel lines { (flushBufs dk).1 with running := false } (shown ++ showBuffers dk.bufO dk.bufE) := by
  intro k
  induction k with
  | zero =>
    intro d dk shown fuel hr hne hs _ hl hb
    cases hs
    simp only [debugLoop, dbgTrans_running fname pcode code lines hne hl hr, hb, ↓reduceIte]
    rfl
  | succ k ih =>
    intro d dk shown fuel hr hne hs hno hl hb
    obtain ⟨hl0, hb0⟩ := hno 0 (Nat.succ_pos k) d rfl
    cases h1 : dbgStep code lines d with
    | error e => rw [dbgSteps, h1] at hs; cases hs
    | ok d1 =>
      rw [dbgSteps, h1] at hs
      simp only [debugLoop, dbgTrans_running fname pcode code lines hne hl0 hr, hb0, Bool.false_eq_true, ↓reduceIte, h1,
        List.append_nil]
      obtain ⟨hr1, hb1, sn, hh1⟩ := dbgStep_frame h1
      rw [← hb1] at hno hb
      exact ih d1 dk shown fuel (hr1.trans hr) (hh1 ▸ List.cons_ne_nil _ _) hs
        (fun i hi di hdi => hno (i + 1) (Nat.succ_lt_succ hi) di (by rw [dbgSteps, h1]; exact hdi)) hl hb

end HyE
