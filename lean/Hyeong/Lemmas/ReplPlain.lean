import Hyeong.Lemmas.Chunks
import Hyeong.Model.Repl
/-!
# the interactive session on lines of program text, against the whole run of the program
-/
namespace HyE
variable {N : Type} [NumOps N]

/-- a line the session treats as program text -/
def Plain (l : List Char) : Prop :=
  trim l ≠ [] ∧ trim l ≠ "clear".toList ∧ trim l ≠ "help".toList ∧ trim l ≠ "exit".toList

/-- the command list of every line, with the remaining script the line sees as its input -/
def chunksOf : List (List Char) → List (List Cmd × List (List Char))
  | [] => []
  | l :: rest => ((HyP.parse l).map Cmd.ofParsed, rest) :: chunksOf rest

/-- how the session ends when the program stops -/
def stopEnd : Stop → SessionEnd
  | .exit c => .exit c
  | e => .error e

theorem repl_plain {l : List Char} (hp : Plain l) (fuel k : Nat) (rest : List (List Char)) (rs : ReplState N) (shown : List Char) :
    repl fuel (k + 1) (l :: rest) rs shown =
      match executeAll fuel rs.code (rs.st, ⟨rest, [], []⟩) ((HyP.parse l).map Cmd.ofParsed) with
      | none => (shown ++ prompt, .hang)
      | some (.error (e, w)) => (shown ++ prompt ++ showBuffers w.out w.err, stopEnd e)
      | some (.ok (code, m)) => repl fuel k m.2.stdin ⟨code, m.1⟩ (shown ++ prompt ++ showBuffers m.2.out m.2.err) := by
  -- the left side unfolds to the cascade of tests on `trim l`
  refine (if_neg hp.1).trans ((if_neg hp.2.1).trans ((if_neg hp.2.2.1).trans ((if_neg hp.2.2.2).trans ?_)))
  dsimp only
  cases executeAll fuel rs.code (rs.st, ⟨rest, [], []⟩) ((HyP.parse l).map Cmd.ofParsed) with
  | none => rfl
  | some r =>
    cases r with
    | ok cm => rfl
    | error ew =>
      obtain ⟨e, w⟩ := ew
      cases e <;> rfl

/-- The session on plain lines of an input-free program, against the whole run of the same commands from buffers holding
`O`/`E`.  `outs`: the two buffers the session shows after each prompt; `po`, `pe`: what the stopping line had written up to
the stop. -/
theorem repl_whole {fuel : Nat} : ∀ {lines : List (List Char)} {k : Nat} (rs : ReplState N) (shown : List Char)
    {r0 : List (List Char)} {O E : List Char} {res : Res (List Cmd × M N)},
    (∀ l ∈ lines, Plain l) → lines.length < k →
    (∀ x ∈ rs.code ++ flat (chunksOf lines), NoIn x) → rs.st.cur ≠ 0 →
    executeAll fuel rs.code (rs.st, ⟨r0, O, E⟩) (flat (chunksOf lines)) = some res →
    ∃ outs : List (List Char × List Char),
      match res with
      | .ok (_, m) => m.2.out = O ++ (outs.map (·.1)).flatten ∧ m.2.err = E ++ (outs.map (·.2)).flatten ∧
          repl fuel k lines rs shown =
            (shown ++ (outs.map (fun oe => prompt ++ showBuffers oe.1 oe.2)).flatten ++ prompt, .exit 0)
      | .error (e, w) => ∃ po pe, w.out = O ++ (outs.map (·.1)).flatten ++ po ∧ w.err = E ++ (outs.map (·.2)).flatten ++ pe ∧
          repl fuel k lines rs shown =
            (shown ++ (outs.map (fun oe => prompt ++ showBuffers oe.1 oe.2)).flatten ++ prompt ++ showBuffers po pe, stopEnd e) := by
  intro lines
  induction lines with
  | nil =>
    intro k rs shown r0 O E res _ hk _ _ h
    cases h
    cases k with
    | zero => cases hk
    | succ k => exact ⟨[], by simp only [List.map_nil, List.flatten_nil, List.append_nil, true_and]; rfl⟩
  | cons l rest ih =>
    intro k rs shown r0 O E res hpl hk hg hcur h
    cases k with
    | zero => cases hk
    | succ k =>
      have hflat : flat (chunksOf (l :: rest)) = (HyP.parse l).map Cmd.ofParsed ++ flat (chunksOf rest) := rfl
      rw [hflat] at h hg
      rw [repl_plain (hpl l List.mem_cons_self)]
      rcases executeAll_chunk rest (fun x hx => hg x (by rw [← List.append_assoc]; exact List.mem_append_left _ hx)) hcur h
        with ⟨e, w, hC, rfl⟩ | ⟨m1, hC, hcur1, hin, h1⟩
      · rw [hC]
        exact ⟨[], w.out, w.err, by simp only [List.map_nil, List.flatten_nil, List.append_nil, and_self]⟩
      · rw [hC]
        obtain ⟨outs, hres⟩ := ih ⟨_, m1.1⟩ (shown ++ prompt ++ showBuffers m1.2.out m1.2.err)
          (fun l' hl' => hpl l' (List.mem_cons_of_mem _ hl')) (Nat.lt_of_succ_lt_succ hk)
          (by rw [List.append_assoc]; exact hg) hcur1 h1
        refine ⟨(m1.2.out, m1.2.err) :: outs, ?_⟩
        rw [← hin] at hres
        -- `outs` grows at the front: up to the bracketing of `++` these are the facts of `hres`
        cases res with
        | ok cm =>
          obtain ⟨ho, he, hr⟩ := hres
          exact ⟨ho.trans (List.append_assoc ..), he.trans (List.append_assoc ..),
            hr.trans (by simp only [List.map_cons, List.flatten_cons, List.append_assoc])⟩
        | error ew =>
          obtain ⟨po, pe, ho, he, hr⟩ := hres
          exact ⟨po, pe, ho.trans (congrArg (· ++ po) (List.append_assoc ..)),
            he.trans (congrArg (· ++ pe) (List.append_assoc ..)),
            hr.trans (by simp only [List.map_cons, List.flatten_cons, List.append_assoc])⟩

/-- `clear` returns to the initial state (the code entered so far is forgotten as well) -/
theorem clear_resets (fuel k : Nat) (l : List Char) (rest : List (List Char)) (rs : ReplState N) (shown : List Char)
    (h : trim l = "clear".toList) :
    repl fuel (k + 1) (l :: rest) rs shown = repl fuel k rest (⟨[], St.init⟩ : ReplState N) (shown ++ prompt) :=
  (if_neg (by rw [h]; simp)).trans (if_pos h)

end HyE
