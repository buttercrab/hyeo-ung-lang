import Hyeong.Spec.RatSpec
/-!
# `Model.Num` against core `Rat`

Canonical values are the rationals (`ofRat`, `exact_iff`); the operations are exact on them, the comparison is
their order; NaN is absorbing.
-/
namespace HyN

theorem euclid_natAbs : ∀ (f : Nat) (a b : Int), b.natAbs < f → (euclid f a b).natAbs = Nat.gcd a.natAbs b.natAbs := by
  intro f
  induction f with
  | zero => intro a b h; exact absurd h (Nat.not_lt_zero _)
  | succ f ih =>
    intro a b h
    simp only [euclid]
    by_cases hb : b = 0
    · simp [hb]
    · simp only [hb, ↓reduceIte]
      have hlt : (a.tmod b).natAbs < f := by
        rw [Int.natAbs_tmod]
        exact Nat.lt_of_lt_of_le (Nat.mod_lt _ (Int.natAbs_pos.mpr hb)) (Nat.le_of_lt_succ h)
      rw [ih b (a.tmod b) hlt, Int.natAbs_tmod, Nat.gcd_comm a.natAbs, Nat.gcd_rec b.natAbs a.natAbs]
      exact Nat.gcd_comm _ _

theorem gcdE_natAbs (a b : Int) : (gcdE a b).natAbs = Int.gcd a b := by
  rw [gcdE, euclid_natAbs _ _ _ (Nat.lt_succ_self _), Int.gcd_eq_natAbs_gcd_natAbs]

theorem toRat_of_ne {n : NumI} (h : n.down ≠ 0) : toRat n = some (Rat.divInt n.up n.down) := if_neg h

/-- the canonical representation of a rational -/
def ofRat (q : Rat) : NumI := ⟨q.num, q.den⟩

theorem divInt_ofRat (q : Rat) : Rat.divInt (ofRat q).up (ofRat q).down = q := Rat.num_divInt_den q

theorem canon_ofRat (q : Rat) : Canon (ofRat q) :=
  ⟨Int.natCast_pos.mpr q.den_pos, q.reduced⟩

theorem toRat_ofRat (q : Rat) : toRat (ofRat q) = some q := by
  rw [toRat_of_ne (Int.natCast_ne_zero.mpr q.den_nz), divInt_ofRat]

theorem ofRat_divInt {a : NumI} (h : Canon a) : ofRat (Rat.divInt a.up a.down) = a := by
  obtain ⟨up, down⟩ := a
  obtain ⟨hd, hg⟩ : 0 < down ∧ Int.gcd up down = 1 := h
  obtain ⟨d, rfl⟩ := Int.eq_ofNat_of_zero_le (Int.le_of_lt hd)
  -- a canonical pair is a `Rat` as it stands, and `Rat.divInt` returns that one
  exact congrArg ofRat (Rat.mk_eq_divInt (nz := Nat.ne_of_gt (Int.natCast_pos.mp hd)) (c := hg)).symm

theorem Canon.eq_ofRat {a : NumI} (h : Canon a) : ∃ q, a = ofRat q := ⟨_, (ofRat_divInt h).symm⟩

theorem exact_iff {x : NumI} {q : Rat} : Canon x ∧ toRat x = some q ↔ x = ofRat q := by
  constructor
  · rintro ⟨h, hq⟩
    rw [toRat_of_ne (Int.ne_of_gt h.1)] at hq
    rw [← Option.some.inj hq, ofRat_divInt h]
  · rintro rfl
    exact ⟨canon_ofRat q, toRat_ofRat q⟩

theorem canon_not_nan {a : NumI} (h : Canon a) : isNan a = false :=
  decide_eq_false (Int.ne_of_gt h.1)

theorem toRat_canon {a : NumI} (h : Canon a) : toRat a = some (Rat.divInt a.up a.down) :=
  toRat_of_ne (Int.ne_of_gt h.1)

theorem canon_num_den {a : NumI} (ha : Canon a) :
    (Rat.divInt a.up a.down).num = a.up ∧ ((Rat.divInt a.up a.down).den : Int) = a.down :=
  ⟨congrArg NumI.up (ofRat_divInt ha), congrArg NumI.down (ofRat_divInt ha)⟩

theorem divInt_inj {a b : NumI} (ha : Canon a) (hb : Canon b) :
    Rat.divInt a.up a.down = Rat.divInt b.up b.down ↔ a = b :=
  ⟨fun h => by rw [← ofRat_divInt ha, h, ofRat_divInt hb], fun h => by rw [h]⟩

theorem canon_eq_iff (a b : NumI) (ha : Canon a) (hb : Canon b) : a = b ↔ toRat a = toRat b := by
  rw [toRat_canon ha, toRat_canon hb, Option.some.injEq, divInt_inj ha hb]

/-- `optimize` divides by the gcd carrying the sign of the denominator -/
theorem optimize_divisor (u : Int) {d : Int} (hd : d ≠ 0) :
    ∃ g : Int, optimize ⟨u, d⟩ = ⟨u.tdiv g, d.tdiv g⟩ ∧ g.natAbs = Int.gcd u d ∧ (0 < g ↔ 0 < d) := by
  have hg : gcdE u d ≠ 0 := Int.natAbs_pos.mp (gcdE_natAbs u d ▸ Int.gcd_pos_of_ne_zero_right u hd)
  refine ⟨_, rfl, ?_, ?_⟩
  · show (if _ then _ else _ : Int).natAbs = _
    rw [apply_ite Int.natAbs, Int.natAbs_neg, ite_self, gcdE_natAbs]
  · show 0 < (if (isPosI _ != isPosI _) = true then _ else _ : Int) ↔ _
    generalize gcdE u d = x at hg
    have pos : ∀ {z : Int}, z ≠ 0 → (0 < z ↔ 0 ≤ z) := fun hz => Int.lt_iff_le_and_ne.trans (and_iff_left (Ne.symm hz))
    simp only [isPosI, bne_iff_ne, ne_eq, decide_eq_decide]
    -- `x` is negated exactly when its sign differs from that of `d`
    by_cases hs : (0 ≤ x ↔ 0 ≤ d)
    · rw [if_neg (not_not_intro hs)]
      exact (pos hg).trans (hs.trans (pos hd).symm)
    · rw [if_pos hs]
      exact Int.neg_pos.trans (Int.not_le.symm.trans ((Classical.not_iff.mp hs).trans (pos hd).symm))

theorem optimize_exact (n : NumI) (hd : n.down ≠ 0) :
    Canon (optimize n) ∧ toRat (optimize n) = some (Rat.divInt n.up n.down) := by
  obtain ⟨u, d⟩ := n
  replace hd : d ≠ 0 := hd
  obtain ⟨g, e, habs, hsign⟩ := optimize_divisor u hd
  have hu : g ∣ u := Int.natAbs_dvd.mp (habs ▸ Int.gcd_dvd_left u d)
  have hd' : g ∣ d := Int.natAbs_dvd.mp (habs ▸ Int.gcd_dvd_right u d)
  have hg0 : g ≠ 0 := Int.natAbs_pos.mp (habs ▸ Int.gcd_pos_of_ne_zero_right u hd)
  have hq : d.tdiv g ≠ 0 := fun h => hd (by rw [← Int.tdiv_mul_cancel hd', h, Int.zero_mul])
  rw [e]
  refine ⟨⟨?_, ?_⟩, ?_⟩
  · -- `d` and `g` have the same sign (`hsign`), so `d / g > 0`; for `d < 0` divide `-d` by `-g`
    show 0 < d.tdiv g
    by_cases hp : 0 < d
    · exact Int.tdiv_pos_of_pos_of_dvd hp (Int.le_of_lt (hsign.mpr hp)) hd'
    · rw [← Int.neg_neg d, ← Int.neg_neg g, Int.neg_tdiv, Int.tdiv_neg, Int.neg_neg]
      exact Int.tdiv_pos_of_pos_of_dvd (Int.neg_pos.mpr (Int.lt_iff_le_and_ne.mpr ⟨Int.not_lt.mp hp, hd⟩))
        (Int.neg_nonneg.mpr (Int.not_lt.mp (mt hsign.mp hp))) (Int.neg_dvd.mpr (Int.dvd_neg.mpr hd'))
  · -- `gcd (u / g) (d / g) = gcd u d / |g| = 1`
    show Int.gcd (u.tdiv g) (d.tdiv g) = 1
    rw [Int.tdiv_eq_ediv_of_dvd hu, Int.tdiv_eq_ediv_of_dvd hd', Int.gcd_ediv hu hd', habs]
    exact Nat.div_self (Int.gcd_pos_of_ne_zero_right u hd)
  · -- multiply numerator and denominator by `g`
    rw [toRat_of_ne hq]
    show some (Rat.divInt (u.tdiv g) (d.tdiv g)) = some (Rat.divInt u d)
    rw [← Rat.divInt_mul_right hg0, Int.tdiv_mul_cancel hu, Int.tdiv_mul_cancel hd']

theorem optimize_canon {n : NumI} (h : Canon n) : optimize n = n :=
  (exact_iff.mp (optimize_exact n (Int.ne_of_gt h.1))).trans (ofRat_divInt h)

/-- the shape `add` and `mul` share -/
theorem arith_canon {a b : NumI} (ha : Canon a) (hb : Canon b) (num : Int) :
    (if isNan a || isNan b then nan else optimize ⟨num, a.down * b.down⟩) =
      ofRat (Rat.divInt num (a.down * b.down)) := by
  rw [canon_not_nan ha, canon_not_nan hb]
  exact exact_iff.mp (optimize_exact ⟨num, a.down * b.down⟩ (Int.ne_of_gt (Int.mul_pos ha.1 hb.1)))

theorem add_exact (a b : NumI) (ha : Canon a) (hb : Canon b) :
    Canon (add a b) ∧ toRat (add a b) = some (Rat.divInt a.up a.down + Rat.divInt b.up b.down) := by
  rw [Rat.divInt_add_divInt _ _ (Int.ne_of_gt ha.1) (Int.ne_of_gt hb.1), Int.mul_comm b.up]
  exact exact_iff.mpr (arith_canon ha hb _)

theorem mul_exact (a b : NumI) (ha : Canon a) (hb : Canon b) :
    Canon (mul a b) ∧ toRat (mul a b) = some (Rat.divInt a.up a.down * Rat.divInt b.up b.down) := by
  rw [Rat.divInt_mul_divInt]
  exact exact_iff.mpr (arith_canon ha hb _)

/-- `add_exact` and `mul_exact` in the form that composes: no fields, no `Canon` to carry along -/
theorem ofRat_of_exact {op : NumI → NumI → NumI} {f : Rat → Rat → Rat}
    (hop : ∀ a b, Canon a → Canon b →
      Canon (op a b) ∧ toRat (op a b) = some (f (Rat.divInt a.up a.down) (Rat.divInt b.up b.down)))
    (p q : Rat) : op (ofRat p) (ofRat q) = ofRat (f p q) := by
  have h := hop _ _ (canon_ofRat p) (canon_ofRat q)
  rwa [divInt_ofRat, divInt_ofRat, exact_iff] at h

theorem add_ofRat (p q : Rat) : add (ofRat p) (ofRat q) = ofRat (p + q) := ofRat_of_exact add_exact p q
theorem mul_ofRat (p q : Rat) : mul (ofRat p) (ofRat q) = ofRat (p * q) := ofRat_of_exact mul_exact p q

theorem zero_add {x : NumI} (h : Canon x) : add zero x = x := by
  obtain ⟨q, rfl⟩ := h.eq_ofRat
  exact (add_ofRat 0 q).trans (congrArg ofRat (Rat.zero_add q))

theorem zero_mul {x : NumI} (h : isNan x = false) : mul zero x = zero := by
  rw [mul, h]
  show optimize ⟨0 * x.up, 1 * x.down⟩ = ofRat 0
  rw [Int.zero_mul, Int.one_mul, ← Rat.zero_divInt x.down]
  exact exact_iff.mp (optimize_exact ⟨0, x.down⟩ (of_decide_eq_false h))

theorem neg_exact (a : NumI) (ha : Canon a) :
    Canon (neg a) ∧ toRat (neg a) = some (- Rat.divInt a.up a.down) := by
  rw [Rat.neg_divInt]
  exact ⟨⟨ha.1, Int.neg_gcd.trans ha.2⟩, toRat_of_ne (Int.ne_of_gt ha.1)⟩

theorem neg_ofRat (p : Rat) : neg (ofRat p) = ofRat (-p) := rfl

theorem flip_zero_nan (a : NumI) (h : a.up = 0) : isNan (flip a) = true := by
  unfold flip
  by_cases hn : isNan a = true
  · simp [hn]
  · simp only [hn, Bool.false_eq_true, ↓reduceIte, h]
    simp [isPosI, isNan]

theorem flip_exact (a : NumI) (ha : Canon a) (h0 : a.up ≠ 0) :
    Canon (flip a) ∧ toRat (flip a) = some (Rat.divInt a.up a.down)⁻¹ := by
  have hg : Int.gcd a.down a.up = 1 := (Int.gcd_comm _ _).trans ha.2
  -- `(u/d)⁻¹ = d/u`; `flip` swaps the fields and, for `u < 0`, negates both, so that the denominator stays positive
  simp only [flip, canon_not_nan ha, Bool.false_eq_true, ↓reduceIte, Rat.inv_divInt, isPosI]
  by_cases hp : 0 ≤ a.up
  · simp only [hp, decide_true, Bool.not_true, Bool.false_eq_true, ↓reduceIte]
    exact ⟨⟨by show 0 < a.up; omega, hg⟩, toRat_of_ne h0⟩
  · simp only [hp, decide_false, Bool.not_false, ↓reduceIte]
    rw [← Rat.neg_divInt_neg]
    exact ⟨⟨by show 0 < -a.up; omega, Int.neg_gcd.trans (Int.gcd_neg.trans hg)⟩, toRat_of_ne (by show -a.up ≠ 0; omega)⟩

/-- `Num::floor` is `&self.up / &self.down`, which truncates; the test for denominator one only saves the division -/
theorem floor_eq_tdiv (a : NumI) : floor a = a.up.tdiv a.down := by
  unfold floor
  split
  · rename_i h1; rw [h1, Int.tdiv_one]
  · rfl

/-- `Num::floor` truncates toward zero: of a negative value it is the ceiling, `-⌊-q⌋` -/
theorem floor_trunc (a : NumI) (ha : Canon a) :
    floor a = if 0 ≤ a.up then (Rat.divInt a.up a.down).floor else -((-(Rat.divInt a.up a.down)).floor) := by
  obtain ⟨hn, hden⟩ := canon_num_den ha
  -- `Rat.floor` is `num / den` rounding down; `tdiv` agrees with `/` on `u ≥ 0`, and `u.tdiv d = -((-u).tdiv d)`
  rw [floor_eq_tdiv, Rat.floor_def, Rat.floor_def, Rat.neg_num, Rat.neg_den, hn, hden]
  split
  · exact Int.tdiv_eq_ediv_of_nonneg ‹_›
  · rw [← Int.tdiv_eq_ediv_of_nonneg (by omega), Int.neg_tdiv, Int.neg_neg]

theorem floor_exact (a : NumI) (ha : Canon a) (h0 : 0 ≤ a.up) :
    floor a = (Rat.divInt a.up a.down).floor :=
  (floor_trunc a ha).trans (if_pos h0)

theorem floor_ofRat {q : Rat} (h : 0 ≤ q) : floor (ofRat q) = q.floor := by
  rw [floor_exact _ (canon_ofRat q) (Rat.num_nonneg.mpr h), divInt_ofRat]

theorem isPos_iff (a : NumI) (ha : Valid a) :
    isPos a = true ↔ ∃ q, toRat a = some q ∧ 0 ≤ q := by
  rcases ha with ha | ha
  · rw [toRat_canon ha]
    simp only [isPos, canon_not_nan ha, Bool.not_false, Bool.and_true, isPosI, decide_eq_true_eq,
      Option.some.injEq, exists_eq_left']
    exact (Rat.divInt_nonneg_iff_of_pos_right ha.1).symm
  · simp [isPos, isNan, toRat, ha]

theorem isPos_ofRat (q : Rat) : isPos (ofRat q) = decide (0 ≤ q) := by
  simp only [isPos, canon_not_nan (canon_ofRat q), isPosI, Bool.not_false, Bool.and_true, ← Rat.num_nonneg]
  rfl

theorem cmp_canon {a b : NumI} (ha : Canon a) (hb : Canon b) :
    cmp a b = some (compareOfLessAndEq (Rat.divInt a.up a.down) (Rat.divInt b.up b.down)) := by
  have hlt : Rat.divInt a.up a.down < Rat.divInt b.up b.down ↔ a.up * b.down < a.down * b.up := by
    rw [Rat.lt_iff, (canon_num_den ha).1, (canon_num_den ha).2, (canon_num_den hb).1, (canon_num_den hb).2,
      Int.mul_comm b.up]
  simp only [cmp, compareOfLessAndEq, canon_not_nan ha, canon_not_nan hb, Bool.or_self, Bool.false_eq_true, ↓reduceIte,
    hlt, divInt_inj ha hb]
  by_cases hab : a = b
  · subst hab; simp only [↓reduceIte, Int.mul_comm a.up, Int.lt_irrefl]
  · simp only [hab, ↓reduceIte]
    split <;> rfl

theorem cmp_lt_iff (a b : NumI) (ha : Canon a) (hb : Canon b) :
    cmp a b = some .lt ↔ Rat.divInt a.up a.down < Rat.divInt b.up b.down := by
  rw [cmp_canon ha hb, Option.some.injEq]
  exact compareOfLessAndEq_eq_lt

theorem cmp_eq_iff (a b : NumI) (ha : Canon a) (hb : Canon b) :
    cmp a b = some .eq ↔ Rat.divInt a.up a.down = Rat.divInt b.up b.down := by
  rw [cmp_canon ha hb, Option.some.injEq]
  exact compareOfLessAndEq_eq_eq (fun _ => Rat.le_refl) Rat.not_le

theorem cmp_gt_iff (a b : NumI) (ha : Canon a) (hb : Canon b) :
    cmp a b = some .gt ↔ Rat.divInt b.up b.down < Rat.divInt a.up a.down := by
  rw [cmp_canon ha hb, Option.some.injEq]
  exact compareOfLessAndEq_eq_gt Rat.le_antisymm (fun _ _ => Rat.le_total) Rat.not_le _ _

theorem cmp_nan_iff (a b : NumI) : cmp a b = none ↔ (isNan a = true ∨ isNan b = true) := by
  rw [← Bool.or_eq_true, cmp]
  split
  · exact iff_of_true rfl ‹_›
  · refine iff_of_false (fun e => ?_) ‹_›
    split at e
    · cases e
    · split at e <;> cases e

theorem cmp_trichotomy (a b : NumI) (ha : Canon a) (hb : Canon b) :
    (cmp a b = some .lt ∧ cmp b a = some .gt) ∨ (cmp a b = some .eq ∧ cmp b a = some .eq) ∨
    (cmp a b = some .gt ∧ cmp b a = some .lt) := by
  rw [cmp_canon ha hb, cmp_canon hb ha,
    compareOfLessAndEq_eq_swap (x := Rat.divInt b.up b.down) Rat.le_antisymm (fun _ _ => Rat.le_total) Rat.not_le]
  cases compareOfLessAndEq (Rat.divInt a.up a.down) (Rat.divInt b.up b.down)
  · exact .inl ⟨rfl, rfl⟩
  · exact .inr (.inl ⟨rfl, rfl⟩)
  · exact .inr (.inr ⟨rfl, rfl⟩)

theorem cmp_trans (a b c : NumI) (ha : Canon a) (hb : Canon b) (hc : Canon c)
    (h1 : cmp a b = some .lt) (h2 : cmp b c = some .lt) : cmp a c = some .lt :=
  (cmp_lt_iff a c ha hc).mpr (Std.lt_trans ((cmp_lt_iff a b ha hb).mp h1) ((cmp_lt_iff b c hb hc).mp h2))

theorem cmp_eq_same (a b : NumI) (ha : Canon a) (hb : Canon b) : cmp a b = some .eq ↔ a = b :=
  (cmp_eq_iff a b ha hb).trans (divInt_inj ha hb)

theorem nan_isNan : isNan nan = true := rfl
theorem add_nan_left {a : NumI} (b : NumI) (h : isNan a = true) : add a b = nan := by simp [add, h]
theorem add_nan_right (a : NumI) {b : NumI} (h : isNan b = true) : add a b = nan := by simp [add, h]
theorem mul_nan_left {a : NumI} (b : NumI) (h : isNan a = true) : mul a b = nan := by simp [mul, h]
theorem mul_nan_right (a : NumI) {b : NumI} (h : isNan b = true) : mul a b = nan := by simp [mul, h]
theorem neg_nan {a : NumI} (h : isNan a = true) : isNan (neg a) = true := h
theorem flip_nan {a : NumI} (h : isNan a = true) : flip a = a := by simp [flip, h]
theorem display_nan (a : NumI) (h : isNan a = true) : display a = nanText := by simp [display, h]

theorem display_of_canon {a : NumI} (h : Canon a) :
    display a = toStringBase a.up 10 ++ (if a.down = 1 then [] else '/' :: toStringBase a.down 10) := by
  rw [display, canon_not_nan h, if_neg Bool.false_ne_true]
  split
  · exact (List.append_nil _).symm
  · exact List.append_assoc ..

theorem isPos_nan {a : NumI} (h : isNan a = true) : isPos a = false := by simp [isPos, h]

theorem canon_fromNum (n : Int) : Canon (fromNum n) ∧ toRat (fromNum n) = some (n : Rat) :=
  exact_iff.mpr (by rw [ofRat, Rat.num_intCast, Rat.den_intCast]; rfl)

theorem canon_zero : Canon zero := by decide
theorem canon_one : Canon one := by decide

theorem fromBigNum_exact (up down : Int) (hd : down ≠ 0) :
    Canon (fromBigNum up down) ∧ toRat (fromBigNum up down) = some (Rat.divInt up down) :=
  optimize_exact ⟨up, down⟩ hd

theorem new_exact (up : Int) (down : Nat) (hd : down ≠ 0) :
    Canon (new up down) ∧ toRat (new up down) = some (Rat.divInt up down) :=
  optimize_exact ⟨up, down⟩ (Int.natCast_ne_zero.mpr hd)

theorem fromBigNum_zero_down (up : Int) : isNan (fromBigNum up 0) = true := by
  simp only [fromBigNum, optimize, isNan, gcdE, euclid, ↓reduceIte]
  simp

theorem fromBigNum_nan (up : Int) (_h : up ≠ 0) : isNan (fromBigNum up 0) = true :=
  fromBigNum_zero_down up

/-! ### identities of `Rat` as equations between stored fields

An operation that computes `f` exactly on canonical values has every identity of `f` as an equation between
representations: both sides are the canonical form of the same rational. So the text a program prints for `a+b+c`
does not depend on which two the implementation adds first. -/

variable {op : NumI → NumI → NumI} {f : Rat → Rat → Rat} (hop : ∀ p q, op (ofRat p) (ofRat q) = ofRat (f p q))
include hop

theorem comm_fields (hf : ∀ p q, f p q = f q p) {a b : NumI} (ha : Canon a) (hb : Canon b) :
    op a b = op b a := by
  obtain ⟨p, rfl⟩ := ha.eq_ofRat
  obtain ⟨q, rfl⟩ := hb.eq_ofRat
  rw [hop, hop, hf]

theorem assoc_fields (hf : ∀ p q r, f (f p q) r = f p (f q r)) {a b c : NumI}
    (ha : Canon a) (hb : Canon b) (hc : Canon c) : op (op a b) c = op a (op b c) := by
  obtain ⟨p, rfl⟩ := ha.eq_ofRat
  obtain ⟨q, rfl⟩ := hb.eq_ofRat
  obtain ⟨r, rfl⟩ := hc.eq_ofRat
  rw [hop, hop, hop, hop, hf]

omit hop

theorem add_comm_fields (a b : NumI) (ha : Canon a) (hb : Canon b) : add a b = add b a :=
  comm_fields add_ofRat Rat.add_comm ha hb

theorem mul_comm_fields (a b : NumI) (ha : Canon a) (hb : Canon b) : mul a b = mul b a :=
  comm_fields mul_ofRat Rat.mul_comm ha hb

theorem add_assoc_fields (a b c : NumI) (ha : Canon a) (hb : Canon b) (hc : Canon c) :
    add (add a b) c = add a (add b c) :=
  assoc_fields add_ofRat Rat.add_assoc ha hb hc

theorem mul_assoc_fields (a b c : NumI) (ha : Canon a) (hb : Canon b) (hc : Canon c) :
    mul (mul a b) c = mul a (mul b c) :=
  assoc_fields mul_ofRat Rat.mul_assoc ha hb hc

end HyN
