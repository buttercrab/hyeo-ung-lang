import Hyeong.Lemmas.BigLess
/-!
`add_core` and `sub_core`: the carry chain adds the values, the borrow chain subtracts them.

`B` stays a symbol here: the carry and borrow arguments do not depend on its value, only on `B_pos` and `two_le_B`.
Each column is settled by a lemma about numbers (`column`, `carry_unit`, `column_lt`, `sub_step`); the inductions follow
the clauses of `addC` and `subC` and say which numbers a clause puts in. The clauses for a single operand are not taken
as instances `b := 0` of the others: to see through `a + 0 + c - B`, unification unfolds the numeral `B` and runs out
of recursion depth.
-/
namespace HyB

theorem two_le_B : 2 ≤ B := by decide

/-- the column sums regrouped by operand -/
theorem column (a b c VA VB : Nat) : a + b + c + B * (VA + VB) = a + B * VA + (b + B * VB) + c := by
  rw [Nat.mul_add, Nat.add_right_comm (a + b), Nat.add_add_add_comm]

/-- one unit of the higher limbs is `B` in this column -/
theorem carry_unit (x V : Nat) : x + B * (V + 1) = x + B + B * V := by
  rw [Nat.mul_succ, Nat.add_comm _ B, Nat.add_assoc]

theorem addC_value (a b : List Nat) (c : Nat) : value (addC a b c) = value a + value b + c := by
  fun_induction addC a b c <;>
    simp only [value, *, carry_unit, Nat.sub_add_cancel, Nat.mul_zero, Nat.add_zero, Nat.zero_add]
  -- the column sum `t` now stands as `t + B * V`, also where a carry had left `t - B + B * (V + 1)`
  -- `case1` is `[], [], c`; each further clause of `addC` makes two cases, with carry (`t ≥ B`) and without
  case case2 | case3 | case4 | case5 =>                  -- `a :: as, [], c` and `[], b :: bs, c`
    exact Nat.add_right_comm ..                          -- `x + c + B * V = x + B * V + c`
  case case6 | case7 =>                                  -- `a :: as, b :: bs, c`
    exact column ..

/-- two limbs and a carry bit stay below `2 * B` -/
theorem column_lt {a b c : Nat} (ha : a < B) (hb : b < B) (hc : c ≤ 1) : a + b + c < B + B :=
  calc a + b + c ≤ a + b + 1 := Nat.add_le_add_left hc _
    _ = a + 1 + b := Nat.add_right_comm ..
    _ < B + B := Nat.add_lt_add_of_le_of_lt ha hb

theorem bit_lt {c : Nat} (hc : c ≤ 1) : c < B := Nat.lt_of_le_of_lt hc two_le_B

/-- carrying one `B` away from a column sum below `2 * B` leaves a limb -/
theorem limbs_carry {t : Nat} {l : List Nat} (ht : B ≤ t) (h : t < B + B) (hl : Limbs l) : Limbs ((t - B) :: l) :=
  limbs_cons.mpr ⟨Nat.sub_lt_left_of_lt_add ht h, hl⟩

theorem addC_limbs (a b : List Nat) (c : Nat) (ha : Limbs a) (hb : Limbs b) (hc : c ≤ 1) :
    Limbs (addC a b c) := by
  fun_induction addC a b c
  case case1 =>                                          -- `[], [], c`
    exact limbs_cons.mpr ⟨bit_lt hc, limbs_nil⟩
  case case2 ht ih =>                                    -- `a :: as, [], c` with carry (`ht : t ≥ B`)
    exact limbs_carry ht (Nat.add_lt_add ha.head (bit_lt hc)) (ih ha.tail hb (Nat.le_refl 1))
  case case3 ht ih =>                                    -- `a :: as, [], c` without
    exact limbs_cons.mpr ⟨Nat.lt_of_not_le ht, ih ha.tail hb (Nat.zero_le 1)⟩
  case case4 ht ih =>                                    -- `[], b :: bs, c` with carry
    exact limbs_carry ht (Nat.add_lt_add hb.head (bit_lt hc)) (ih ha hb.tail (Nat.le_refl 1))
  case case5 ht ih =>                                    -- `[], b :: bs, c` without
    exact limbs_cons.mpr ⟨Nat.lt_of_not_le ht, ih ha hb.tail (Nat.zero_le 1)⟩
  case case6 ht ih =>                                    -- `a :: as, b :: bs, c` with carry
    exact limbs_carry ht (column_lt ha.head hb.head hc) (ih ha.tail hb.tail (Nat.le_refl 1))
  case case7 ht ih =>                                    -- `a :: as, b :: bs, c` without
    exact limbs_cons.mpr ⟨Nat.lt_of_not_le ht, ih ha.tail hb.tail (Nat.zero_le 1)⟩

theorem addC_ne_nil (a b : List Nat) (c : Nat) : addC a b c ≠ [] := by
  fun_induction addC a b c <;> exact List.cons_ne_nil _ _

theorem addCore_value (a b : List Nat) : value (addCore a b) = value a + value b :=
  addC_value a b 0

theorem addCore_limbs {a b : List Nat} (ha : Limbs a) (hb : Limbs b) : Limbs (addCore a b) :=
  addC_limbs a b 0 ha hb (Nat.zero_le 1)

/-- One column of the borrow chain. `S` is still to be taken from `a :: as`; the limb `d` settles the column and leaves
`S'` to be taken from `as`. That `S'` is not too much follows from `d < B`, whether the column borrows or not. -/
theorem sub_step {a d S S' : Nat} {as r : List Nat} (hd : d + S = a + B * S') (hlt : d < B)
    (h : S ≤ value (a :: as)) (ih : S' ≤ value as → value r + S' = value as ∧ Limbs r) :
    value (d :: r) + S = value (a :: as) ∧ Limbs (d :: r) := by
  have hS : a + B * S' < a + B * (value as + 1) :=
    calc a + B * S' = d + S := hd.symm
      _ < B + (a + B * value as) := Nat.add_lt_add_of_lt_of_le hlt h
      _ = a + B * (value as + 1) := by rw [Nat.mul_succ, Nat.add_left_comm, Nat.add_comm B]
  obtain ⟨e, l⟩ := ih (Nat.le_of_lt_succ (Nat.lt_of_mul_lt_mul_left (Nat.lt_of_add_lt_add_left hS)))
  refine ⟨?_, limbs_cons.mpr ⟨hlt, l⟩⟩
  rw [value, value, Nat.add_right_comm, hd, ← e, Nat.mul_add, Nat.add_assoc, Nat.add_comm (B * S')]

/-- the limb of a column that borrows, `k` being what the column takes away -/
theorem borrow_limb {a k : Nat} (hlt : a < k) (hk : k ≤ B) : a + B - k < B ∧ a + B - k + k = a + B :=
  have hk : k ≤ a + B := Nat.le_trans hk (Nat.le_add_left B a)
  ⟨Nat.sub_lt_left_of_lt_add hk (Nat.add_lt_add_right hlt B), Nat.sub_add_cancel hk⟩

/-- no condition on the lengths: where `a` has run out, `h` leaves `b` only zero limbs -/
theorem subC_value {a b : List Nat} {c : Nat} (ha : Limbs a) (hb : Limbs b) (hc : c ≤ 1)
    (h : value b + c ≤ value a) : value (subC a b c) + (value b + c) = value a ∧ Limbs (subC a b c) := by
  fun_induction subC a b c
  case case1 c =>                                        -- `[], [], c`
    obtain rfl : c = 0 := Nat.le_zero.mp (Nat.le_trans (Nat.le_add_left ..) h)
    exact ⟨rfl, limbs_replicate_zero 1⟩
  case case4 =>                                          -- `[], _ :: _, _`
    exact ⟨congrArg _ (Nat.le_zero.mp h), limbs_nil⟩
  case case2 a as c hlt ih =>                            -- `a :: as, [], c` with borrow
    obtain ⟨hd, e⟩ := borrow_limb hlt (Nat.le_of_lt (bit_lt hc))
    refine sub_step ?_ hd h (ih ha.tail hb (Nat.le_refl 1))
    simp only [value, Nat.zero_add, Nat.mul_one, e]
  case case3 a as c hlt ih =>                            -- `a :: as, [], c` without
    refine sub_step ?_ (Nat.sub_lt_of_lt ha.head) h (ih ha.tail hb (Nat.zero_le 1))
    simp only [value, Nat.zero_add, Nat.mul_zero, Nat.add_zero, Nat.sub_add_cancel (Nat.le_of_not_lt hlt)]
  case case5 a as b bs c hlt ih =>                       -- `a :: as, b :: bs, c` with borrow: `b + c` is taken away
    obtain ⟨hd, e⟩ := borrow_limb hlt (Nat.le_trans (Nat.add_le_add_left hc b) hb.head)
    rw [Nat.sub_sub]
    refine sub_step ?_ hd h (ih ha.tail hb.tail (Nat.le_refl 1))
    rw [value, carry_unit, Nat.add_right_comm b, ← Nat.add_assoc, e]
  case case6 a as b bs c hlt ih =>                       -- `a :: as, b :: bs, c` without
    rw [Nat.sub_sub]
    refine sub_step ?_ (Nat.sub_lt_of_lt ha.head) h (ih ha.tail hb.tail (Nat.zero_le 1))
    rw [value, Nat.add_zero, Nat.add_right_comm b, ← Nat.add_assoc, Nat.sub_add_cancel (Nat.le_of_not_lt hlt)]

theorem subC_ne_nil {a : List Nat} (h : a ≠ []) (b : List Nat) (c : Nat) : subC a b c ≠ [] := by
  fun_induction subC a b c
  case case4 => exact absurd rfl h
  all_goals exact List.cons_ne_nil _ _

/-- why `sub_core`, which indexes the minuend at the positions of the subtrahend, stays in range: it is called with the
larger operand first. (The model's `subC` is total and needs no such condition; not used below.) -/
theorem norm_length_le {a b : List Nat} (ha : Norm a) (hb : Norm b) (h : value b ≤ value a) :
    b.length ≤ a.length := by
  rcases shrink_cases hb.2.1 with ⟨_, e⟩ | ⟨_, e⟩ <;> rw [hb.2.2] at e
  · rw [e]; exact List.length_pos_iff.mpr ha.2.1
  · refine Nat.le_of_not_lt fun hlt => Nat.not_lt_of_le h ?_
    rw [e] at hlt ⊢
    exact value_lt_of_length_lt ha.1 hlt

theorem subC_zero {a b : List Nat} (ha : Limbs a) (hb : Limbs b) (hne : a ≠ []) (h : value b ≤ value a) :
    value (subC a b 0) = value a - value b ∧ Limbs (subC a b 0) ∧ subC a b 0 ≠ [] := by
  obtain ⟨e, l⟩ := subC_value ha hb (Nat.zero_le 1) h
  exact ⟨Nat.eq_sub_of_add_eq e, l, subC_ne_nil hne b 0⟩

theorem subCore_value {l r : List Nat} (hl : Norm l) (hr : Norm r) :
    ((subCore l r).2 = true ↔ value l < value r) ∧
    value (subCore l r).1 = (if value l < value r then value r - value l else value l - value r) ∧
    Limbs (subCore l r).1 ∧ (subCore l r).1 ≠ [] := by
  unfold subCore
  have hless := lessCore_iff hl.1 hr.1
  by_cases h : lessCore l r = true
  · have hlt := hless.mp h
    simp only [h, hlt, ↓reduceIte, true_and]
    exact subC_zero hr.1 hl.1 hr.2.1 (Nat.le_of_lt hlt)
  · have hlt : ¬ value l < value r := fun x => h (hless.mpr x)
    simp only [h, hlt, ↓reduceIte, Bool.false_eq_true, true_and]
    exact subC_zero hl.1 hr.1 hl.2.1 (Nat.le_of_not_lt hlt)

end HyB
