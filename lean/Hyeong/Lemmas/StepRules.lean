import Hyeong.Model.Exec
/-!
# what the operations of `Model.Exec` do, case by case

Equations for running a program by hand (`step` split into its command, area and jump parts), and the inversions of `jump`
and `step`.
-/
namespace HyE
open HyP (Area)

theorem Res.andThen_eq_ok {α β : Type} {x : Res α} {f : α → Res β} {b : β} (h : x.andThen f = .ok b) :
    ∃ a, x = .ok a ∧ f a = .ok b := by
  cases x with
  | error e => cases h
  | ok a => exact ⟨a, rfl, h⟩

def Res.mapOk {α β : Type} (f : α → β) : Res α → Res β
  | .ok a => .ok (f a)
  | .error e => .error e

theorem Res.andThen_mapOk {α β γ : Type} (x : Res α) (g : α → β) (f : β → Res γ) :
    (x.mapOk g).andThen f = x.andThen (fun a => f (g a)) := by
  cases x <;> rfl

section
variable {N : Type}

@[simp] theorem setStack_same (s : St N) (i : Nat) (l : List N) : (setStack s i l).stacks i = l := by simp [setStack]
theorem setStack_ne {s : St N} {i j : Nat} {l : List N} (h : j ≠ i) : (setStack s i l).stacks j = s.stacks j := by
  simp [setStack, h]

theorem setStack_setStack (s : St N) (i : Nat) (a b : List N) : setStack (setStack s i a) i b = setStack s i b := by
  simp only [setStack]
  congr 1
  funext j
  split <;> rfl

theorem setStack_self (s : St N) (i : Nat) : setStack s i (s.stacks i) = s := by
  obtain ⟨st, cur, pts, lat⟩ := s
  simp only [setStack, St.mk.injEq, and_true]
  funext j
  split
  · subst j; rfl
  · rfl

theorem lookup_append_new (ps : List (Nat × Nat)) (id v : Nat) (h : lookup ps id = none) : lookup (ps ++ [(id, v)]) id = some v := by
  unfold lookup at h ⊢
  rw [List.find?_append]
  cases hf : ps.find? (fun x => x.1 == id) with
  | some y => rw [hf] at h; cases h
  | none => simp

theorem lookup_mem {ps : List (Nat × Nat)} {id v : Nat} (h : lookup ps id = some v) : ∃ x ∈ ps, x.2 = v := by
  obtain ⟨x, hf, rfl⟩ := Option.map_eq_some_iff.mp h
  exact ⟨x, List.mem_of_find?_eq_some hf, rfl⟩

theorem jump_new {s : St N} {c : Cmd} {loc t : Nat} (h0 : t ≠ 0) (h13 : t ≠ 13) (h : lookup s.points (c.areaCount * 16 + t) = none) :
    jump s c loc t = ({ s with points := s.points ++ [(c.areaCount * 16 + t, loc)] }, loc + 1) := by
  simp only [jump, h0, h13, ne_eq, not_false_eq_true, ↓reduceIte, h]

theorem jump_to {s : St N} {c : Cmd} {loc t v : Nat} (h0 : t ≠ 0) (h13 : t ≠ 13) (h : lookup s.points (c.areaCount * 16 + t) = some v) :
    jump s c loc t = if loc ≠ v then ({ s with latest := some loc }, v) else (s, loc + 1) := by
  simp only [jump, h0, h13, ne_eq, not_false_eq_true, ↓reduceIte, h]

theorem jump_ret (s : St N) (c : Cmd) (loc : Nat) : jump s c loc 13 = (s, s.latest.getD (loc + 1)) := by
  show (match s.latest with | some l => (s, l) | none => (s, loc + 1)) = _
  cases s.latest <;> rfl

/-- In this order (the `rcases` patterns of its users depend on it): no jump — tag 0, but also the return heart without a
return target and a label met again at the command that stored it —, jump to a stored label, a new label, return. -/
theorem jump_cases (s : St N) (c : Cmd) (loc t : Nat) :
    jump s c loc t = (s, loc + 1) ∨
    (t ≠ 0 ∧ ∃ v, lookup s.points (c.areaCount * 16 + t) = some v ∧ jump s c loc t = ({ s with latest := some loc }, v)) ∨
    (t ≠ 0 ∧ jump s c loc t = ({ s with points := s.points ++ [(c.areaCount * 16 + t, loc)] }, loc + 1)) ∨
    (∃ l, s.latest = some l ∧ jump s c loc t = (s, l)) := by
  by_cases h0 : t = 0
  · exact .inl (by rw [h0]; rfl)
  by_cases h13 : t = 13
  · subst h13
    rw [jump_ret]
    cases hl : s.latest with
    | none => exact .inl rfl
    | some l => exact .inr (.inr (.inr ⟨l, rfl, rfl⟩))
  cases hlk : lookup s.points (c.areaCount * 16 + t) with
  | none => exact .inr (.inr (.inl ⟨h0, jump_new h0 h13 hlk⟩))
  | some v =>
    rw [jump_to h0 h13 hlk]
    by_cases hv : loc ≠ v
    · exact .inr (.inl ⟨h0, v, rfl, if_pos hv⟩)
    · exact .inl (if_neg hv)

theorem jump_frame (s : St N) (c : Cmd) (loc t : Nat) :
    (jump s c loc t).1.stacks = s.stacks ∧ (jump s c loc t).1.cur = s.cur := by
  rcases jump_cases s c loc t with e | ⟨_, _, _, e⟩ | ⟨_, e⟩ | ⟨_, _, e⟩ <;> rw [e] <;> exact ⟨rfl, rfl⟩

theorem jump_areaCount (s : St N) {c c' : Cmd} (h : c'.areaCount = c.areaCount) (loc t : Nat) :
    jump s c' loc t = jump s c loc t := by
  unfold jump
  rw [h]

/-- for a command that carries its own label, whether this is its first execution or a later one -/
theorem jump_own_label {s : St N} {c : Cmd} {loc t : Nat} (h0 : t ≠ 0) (h13 : t ≠ 13)
    (h : ∀ v, lookup s.points (c.areaCount * 16 + t) = some v → v = loc) :
    ∃ pts, jump s c loc t = ({ s with points := pts }, loc + 1) ∧ lookup pts (c.areaCount * 16 + t) = some loc := by
  cases hl : lookup s.points (c.areaCount * 16 + t) with
  | none => exact ⟨_, jump_new h0 h13 hl, lookup_append_new _ _ _ hl⟩
  | some v =>
    have hv := h v hl
    subst hv
    exact ⟨s.points, by rw [jump_to h0 h13 hl, if_neg (fun h => h rfl)], hl⟩

end

theorem splitLines_flatten : ∀ (s : List Char), (splitLines s).flatten = s ∧ ∀ l ∈ splitLines s, l ≠ [] := by
  intro s
  induction s with
  | nil => exact ⟨rfl, fun _ h => nomatch h⟩
  | cons c cs ih =>
    -- in each case `c` goes in front of the first line, or is a line of its own
    rw [splitLines]
    split
    · exact ⟨congrArg (c :: ·) ih.1, List.forall_mem_cons.mpr ⟨List.cons_ne_nil _ _, ih.2⟩⟩
    · cases hs : splitLines cs with
      | nil => rw [hs] at ih; exact ⟨congrArg (c :: ·) ih.1, List.forall_mem_cons.mpr ⟨List.cons_ne_nil _ _, ih.2⟩⟩
      | cons l ls =>
        rw [hs] at ih
        exact ⟨congrArg (c :: ·) ih.1, List.forall_mem_cons.mpr ⟨List.cons_ne_nil _ _, (List.forall_mem_cons.mp ih.2).2⟩⟩

variable {N : Type} [NumOps N]

theorem pushRaw_cur (s : St N) (i : Nat) (n : N) : (pushRaw s i n).cur = s.cur := by
  unfold pushRaw; split <;> rfl

theorem popRaw_cur (s : St N) (i : Nat) : (popRaw s i).2.cur = s.cur := by
  unfold popRaw; split <;> rfl

theorem pushRaw_eq_setStack (s : St N) (i : Nat) (n : N) : ∃ l, pushRaw s i n = setStack s i l := by
  unfold pushRaw
  split
  · exact ⟨_, (setStack_self s i).symm⟩
  · exact ⟨_, rfl⟩

theorem pushRaw_push (s : St N) (i : Nat) (x : N) (h : s.stacks i ≠ [] ∨ NumOps.isNan x = false) :
    pushRaw s i x = setStack s i (x :: s.stacks i) := by
  unfold pushRaw
  rcases h with h | h
  · cases hs : s.stacks i with
    | nil => exact absurd hs h
    | cons a b => simp
  · simp [h]

theorem pop0_cons {s : St N} {w : World} {x : N} {r : List N} (hs : s.stacks 0 = x :: r) :
    popWrap (s, w) 0 = .ok (x, (setStack s 0 r, w)) := by
  simp only [popWrap, ↓reduceIte, hs, List.isEmpty_cons, Bool.false_eq_true, popRaw]

theorem pop0_line {s : St N} {w : World} {c : Char} {cs : List Char} {rest : List (List Char)} (hs : s.stacks 0 = [])
    (hw : w.stdin = (c :: cs) :: rest) :
    popWrap (s, w) 0 = .ok (NumOps.ofNat c.toNat, (setStack s 0 (lineStack cs), { w with stdin := rest })) := by
  simp only [popWrap, ↓reduceIte, hs, List.isEmpty_nil, hw, popRaw, lineStack, List.map_cons, setStack_same, setStack_setStack]

theorem pop0_eof {s : St N} {w : World} (hs : s.stacks 0 = []) (hw : w.stdin = []) : popWrap (s, w) 0 = .ok (NumOps.nan, (s, w)) := by
  simp only [popWrap, ↓reduceIte, hs, List.isEmpty_nil, hw, popRaw]

theorem pop0_inputErr {s : St N} {w : World} {rest : List (List Char)} (hs : s.stacks 0 = []) (hw : w.stdin = [] :: rest) :
    popWrap (s, w) 0 = .error (.inputErr, w) := by
  simp only [popWrap, ↓reduceIte, hs, List.isEmpty_nil, hw]

theorem popWrap_plain {m : M N} {i : Nat} (h : 2 < i) : popWrap m i = .ok ((popRaw m.1 i).1, ((popRaw m.1 i).2, m.2)) := by
  have ⟨h0, h1, h2⟩ : i ≠ 0 ∧ i ≠ 1 ∧ i ≠ 2 := by omega
  simp only [popWrap, h0, h1, h2, ↓reduceIte]

theorem pop_plain {s : St N} {w : World} {i : Nat} {x : N} {r : List N} (h : 2 < i) (hs : s.stacks i = x :: r) :
    popWrap (s, w) i = .ok (x, (setStack s i r, w)) := by
  simp only [popWrap_plain h, popRaw, hs]

theorem pushWrap_plain {m : M N} {i : Nat} (h : ¬ (i = 1 ∨ i = 2)) (n : N) : pushWrap m i n = .ok (pushRaw m.1 i n, m.2) := by
  simp only [pushWrap, h, ↓reduceIte]

theorem pushWrap_out {m : M N} {n : N} {cs : List Char} (h : NumOps.render n = .text cs) :
    pushWrap m 1 n = .ok (m.1, { m.2 with out := m.2.out ++ cs }) := by
  simp only [pushWrap, true_or, ↓reduceIte, h, emit]

theorem popN_cons {m m1 m2 : M N} {i k : Nat} {x : N} {xs : List N} (h1 : popWrap m i = .ok (x, m1))
    (h2 : popN m1 i k = .ok (xs, m2)) : popN m i (k + 1) = .ok (x :: xs, m2) := by
  simp only [popN, h1, h2, Res.andThen]

theorem exec_push {c : Cmd} (hk : c.kind = 0) (m : M N) :
    execCmd m c = pushWrap m m.1.cur (NumOps.mul (NumOps.ofNat c.hangul) (NumOps.ofNat c.dots)) := by
  simp only [execCmd, hk]

theorem exec_add {c : Cmd} (hk : c.kind = 1) {m m1 : M N} {xs : List N} (hpop : popN m m.1.cur c.hangul = .ok (xs, m1)) :
    execCmd m c = pushWrap m1 c.dots (xs.foldl NumOps.add NumOps.zero) := by
  simp only [execCmd, hk, hpop, Res.andThen]

theorem exec_mul {c : Cmd} (hk : c.kind = 2) {m m1 : M N} {xs : List N} (hpop : popN m m.1.cur c.hangul = .ok (xs, m1)) :
    execCmd m c = pushWrap m1 c.dots (xs.foldl NumOps.mul NumOps.one) := by
  simp only [execCmd, hk, hpop, Res.andThen]

/-- `흑` with one syllable: duplicate the top onto stack `dots` and select that stack -/
theorem exec_sel {c : Cmd} (hk : c.kind = 5) (hh : c.hangul = 1) {m m1 m2 m3 : M N} {x : N}
    (hpop : popWrap m m.1.cur = .ok (x, m1)) (hto : pushWrap m1 c.dots x = .ok m2) (hback : pushWrap m2 m.1.cur x = .ok m3) :
    execCmd m c = .ok ({ m3.1 with cur := c.dots }, m3.2) := by
  simp only [execCmd, hk, hh, hpop, List.replicate, pushAll, hto, hback, Res.andThen]

theorem area_heart {m : M N} {cnt t : Nat} {l r : Area} (h0 : t ≠ 0) (h1 : t ≠ 1) : areaCalc m cnt (.val t l r) = .ok (t, m) := by
  simp only [areaCalc, h0, h1, ↓reduceIte]

/-- tag 0 is `?` (go left if the popped value is below the count), tag 1 is `!` (if equal); any other tag is a heart -/
theorem areaCalc_val (m : M N) (cnt t : Nat) (l r : Area) :
    areaCalc m cnt (.val t l r) =
      if t ≤ 1 then (popWrap m m.1.cur).andThen fun v =>
        areaCalc v.2 cnt (if NumOps.cmp v.1 (NumOps.ofNat cnt : N) = some (if t = 0 then .lt else .eq) then l else r)
      else .ok (t, m) := by
  by_cases h0 : t = 0
  · subst h0
    refine congrArg (Res.andThen _) (funext fun v => ?_)
    rcases NumOps.cmp v.1 (NumOps.ofNat cnt : N) with _ | _ | _ | _ <;> rfl
  by_cases h1 : t = 1
  · subst h1
    refine congrArg (Res.andThen _) (funext fun v => ?_)
    rcases NumOps.cmp v.1 (NumOps.ofNat cnt : N) with _ | _ | _ | _ <;> rfl
  · rw [area_heart h0 h1, if_neg (by omega)]

theorem area_question {m m1 : M N} {cnt : Nat} {l r : Area} {x : N} (hpop : popWrap m m.1.cur = .ok (x, m1)) :
    areaCalc m cnt (.val 0 l r) = areaCalc m1 cnt (if NumOps.cmp x (NumOps.ofNat cnt : N) = some .lt then l else r) := by
  rw [areaCalc_val, if_pos (Nat.zero_le 1), hpop]
  rfl

theorem area_bang {m m1 : M N} {cnt : Nat} {l r : Area} {x : N} (hpop : popWrap m m.1.cur = .ok (x, m1)) :
    areaCalc m cnt (.val 1 l r) = areaCalc m1 cnt (if NumOps.cmp x (NumOps.ofNat cnt : N) = some .eq then l else r) := by
  rw [areaCalc_val, if_pos (Nat.le_refl 1), hpop]
  rfl

theorem step_at {p : List Cmd} {m : M N} {loc : Nat} {c : Cmd} (h : p[loc]? = some c) :
    step p ⟨m, loc⟩ = (stepCmd m c loc).andThen fun r => .ok ⟨r.1, r.2⟩ := by
  simp only [step, h]

theorem step_of {p : List Cmd} {loc t : Nat} {c : Cmd} {m m1 m2 : M N} (hp : p[loc]? = some c)
    (he : execCmd m c = .ok m1) (ha : areaCalc m1 c.areaCount c.area = .ok (t, m2)) :
    step p ⟨m, loc⟩ = .ok ⟨((jump m2.1 c loc t).1, m2.2), (jump m2.1 c loc t).2⟩ := by
  simp only [step_at hp, stepCmd, he, ha, Res.andThen]

theorem step_nil {p : List Cmd} {loc : Nat} {c : Cmd} {m m1 : M N} (hp : p[loc]? = some c) (hn : c.area = .nil)
    (he : execCmd m c = .ok m1) : step p ⟨m, loc⟩ = .ok ⟨m1, loc + 1⟩ := by
  rw [step_of hp he (t := 0) (m2 := m1) (by rw [hn]; rfl)]
  rfl

theorem step_of_error {p : List Cmd} {loc : Nat} {c : Cmd} {m : M N} {e : Stop × World} (hp : p[loc]? = some c)
    (he : execCmd m c = .error e) : step p ⟨m, loc⟩ = .error e := by
  simp only [step_at hp, stepCmd, he, Res.andThen]

theorem step_ok {p : List Cmd} {c c' : Cfg N} (h : step p c = .ok c') :
    (p[c.loc]? = none ∧ c' = c) ∨ ∃ cmd m1 r, p[c.loc]? = some cmd ∧ execCmd c.m cmd = .ok m1 ∧
      areaCalc m1 cmd.areaCount cmd.area = .ok r ∧
      c' = ⟨((jump r.2.1 cmd c.loc r.1).1, r.2.2), (jump r.2.1 cmd c.loc r.1).2⟩ := by
  unfold step at h
  split at h
  · exact .inl ⟨‹_›, by cases h; rfl⟩
  · rename_i cmd hg
    obtain ⟨_, h1, h⟩ := Res.andThen_eq_ok h
    obtain ⟨m1, he, h1⟩ := Res.andThen_eq_ok h1
    obtain ⟨r, ha, h1⟩ := Res.andThen_eq_ok h1
    cases h1; cases h; exact .inr ⟨cmd, m1, r, hg, he, ha, rfl⟩

end HyE
