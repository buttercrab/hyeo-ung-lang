import Hyeong.Model.Big
/-!
Limb vectors of `big_number.rs`: `Limbs v` (every limb below `B`), their `value`, and the normal form `Norm v` that
`shrink_to_fit` leaves. Normal forms with the same value are the same vector (`norm_unique`).
-/
namespace HyB

def Limbs (v : List Nat) : Prop := ∀ x ∈ v, x < B

theorem limbs_nil : Limbs [] := by intro x hx; cases hx
theorem limbs_cons {x : Nat} {xs : List Nat} : Limbs (x :: xs) ↔ x < B ∧ Limbs xs := List.forall_mem_cons
theorem Limbs.head {x : Nat} {xs : List Nat} (h : Limbs (x :: xs)) : x < B := (limbs_cons.mp h).1
theorem Limbs.tail {x : Nat} {xs : List Nat} (h : Limbs (x :: xs)) : Limbs xs := (limbs_cons.mp h).2

theorem limbs_append {a b : List Nat} (ha : Limbs a) (hb : Limbs b) : Limbs (a ++ b) :=
  fun x hx => (List.mem_append.mp hx).elim (ha x) (hb x)

theorem limbs_reverse {l : List Nat} (h : Limbs l) : Limbs l.reverse := fun x hx => h x (List.mem_reverse.mp hx)

theorem B_pos : 0 < B := by decide

theorem limbs_replicate_zero (n : Nat) : Limbs (List.replicate n 0) :=
  fun _ hx => (List.mem_replicate.mp hx).2 ▸ B_pos

theorem value_singleton (x : Nat) : value [x] = x := rfl

theorem value_append (a b : List Nat) : value (a ++ b) = value a + B ^ a.length * value b := by
  induction a with
  | nil => simp [value]
  | cons x xs ih =>
    simp only [List.cons_append, value, ih, List.length_cons, Nat.pow_succ]
    rw [Nat.mul_add, Nat.add_assoc, Nat.mul_comm (B ^ xs.length) B, Nat.mul_assoc]

theorem value_replicate_zero (n : Nat) : value (List.replicate n 0) = 0 := by
  induction n with
  | zero => rfl
  | succ n ih => simp [List.replicate_succ, value, ih]

/-- a part below `P` cannot make up for a smaller leading part -/
theorem lead_lt {P VA a b : Nat} (hA : VA < P) (h : a < b) : VA + P * a < P * b :=
  calc VA + P * a < P + P * a := Nat.add_lt_add_right hA _
    _ = P * (a + 1) := by rw [Nat.mul_succ, Nat.add_comm]
    _ ≤ P * b := Nat.mul_le_mul_left P h

theorem value_lt {v : List Nat} (h : Limbs v) : value v < B ^ v.length := by
  induction v with
  | nil => exact Nat.one_pos
  | cons x xs ih =>
    rw [value, List.length_cons, Nat.pow_succ']
    exact lead_lt h.head (ih h.tail)

theorem limb_inj {x y VA VB : Nat} (hx : x < B) (hy : y < B) (h : x + B * VA = y + B * VB) : x = y ∧ VA = VB := by
  have hm := congrArg (· % B) h
  have hd := congrArg (· / B) h
  simp only [Nat.add_mul_mod_self_left, Nat.mod_eq_of_lt hx, Nat.mod_eq_of_lt hy, Nat.add_mul_div_left _ _ B_pos,
    Nat.div_eq_of_lt hx, Nat.div_eq_of_lt hy, Nat.zero_add] at hm hd
  exact ⟨hm, hd⟩

theorem value_dropZeros (v : List Nat) : value (dropZeros v) = value v := by
  induction v with
  | nil => rfl
  | cons x xs ih =>
    rw [dropZeros]
    split
    · rename_i h
      rw [value, value, ← ih, h.1, h.2]; rfl
    · rw [value, value, ih]

theorem limbs_dropZeros {v : List Nat} (h : Limbs v) : Limbs (dropZeros v) := by
  induction v with
  | nil => exact limbs_nil
  | cons x xs ih =>
    rw [dropZeros]
    split
    · exact limbs_nil
    · exact limbs_cons.mpr ⟨h.head, ih h.tail⟩

theorem dropZeros_nil_iff (v : List Nat) : dropZeros v = [] ↔ value v = 0 := by
  induction v with
  | nil => exact iff_of_true rfl rfl
  | cons x xs ih =>
    rw [dropZeros, value, Nat.add_eq_zero_iff, Nat.mul_eq_zero, or_iff_right (Nat.ne_of_gt B_pos), ← ih]
    split
    · exact iff_of_true rfl (And.symm ‹_›)
    · exact iff_of_false (List.cons_ne_nil _ _) (mt And.symm ‹_›)

theorem dropZeros_eq_of_value_eq : ∀ {a b : List Nat}, Limbs a → Limbs b → value a = value b →
    dropZeros a = dropZeros b
  | [], b, _, _, h => ((dropZeros_nil_iff b).mpr h.symm).symm
  | x :: xs, [], _, _, h => (dropZeros_nil_iff _).mpr h
  | x :: xs, y :: ys, ha, hb, h => by
    obtain ⟨rfl, hv⟩ := limb_inj ha.head hb.head h
    rw [dropZeros, dropZeros, dropZeros_eq_of_value_eq ha.tail hb.tail hv]

theorem shrink_cons (x : Nat) (xs : List Nat) :
    shrink (x :: xs) = if dropZeros (x :: xs) = [] then [0] else dropZeros (x :: xs) := rfl

/-- `shrink` of a non-empty vector is `[0]`, the value being zero, or `dropZeros`, which is then not empty -/
theorem shrink_cases {v : List Nat} (h : v ≠ []) :
    value v = 0 ∧ shrink v = [0] ∨ shrink v ≠ [] ∧ shrink v = dropZeros v := by
  obtain ⟨x, xs, rfl⟩ := List.exists_cons_of_ne_nil h
  rw [shrink_cons]
  split
  · exact Or.inl ⟨(dropZeros_nil_iff _).mp ‹_›, rfl⟩
  · exact Or.inr ⟨‹_›, rfl⟩

theorem value_shrink (v : List Nat) : value (shrink v) = value v := by
  by_cases h : v = []
  · rw [h]; rfl
  · rcases shrink_cases h with ⟨h0, e⟩ | ⟨_, e⟩
    · rw [e, h0]; rfl
    · rw [e, value_dropZeros]

theorem limbs_shrink {v : List Nat} (h : Limbs v) : Limbs (shrink v) := by
  by_cases hne : v = []
  · rw [hne]; exact limbs_nil
  · rcases shrink_cases hne with ⟨_, e⟩ | ⟨_, e⟩
    · rw [e]; exact limbs_replicate_zero 1
    · rw [e]; exact limbs_dropZeros h

theorem shrink_ne_nil {v : List Nat} (h : v ≠ []) : shrink v ≠ [] := by
  rcases shrink_cases h with ⟨_, e⟩ | ⟨hn, _⟩
  · rw [e]; exact List.cons_ne_nil _ _
  · exact hn

/-- normal form of a magnitude: limbs in range, non-empty, no superfluous high zero limb -/
def Norm (v : List Nat) : Prop := Limbs v ∧ v ≠ [] ∧ shrink v = v

theorem shrink_eq_of_value_eq {a b : List Nat} (ha : Limbs a) (hb : Limbs b) (hna : a ≠ []) (hnb : b ≠ [])
    (h : value a = value b) : shrink a = shrink b := by
  obtain ⟨x, xs, rfl⟩ := List.exists_cons_of_ne_nil hna
  obtain ⟨y, ys, rfl⟩ := List.exists_cons_of_ne_nil hnb
  rw [shrink_cons, shrink_cons, dropZeros_eq_of_value_eq ha hb h]

theorem norm_shrink {v : List Nat} (h : Limbs v) (hne : v ≠ []) : Norm (shrink v) :=
  ⟨limbs_shrink h, shrink_ne_nil hne,
    shrink_eq_of_value_eq (limbs_shrink h) h (shrink_ne_nil hne) hne (value_shrink v)⟩

theorem norm_unique {a b : List Nat} (ha : Norm a) (hb : Norm b) (h : value a = value b) : a = b := by
  rw [← ha.2.2, ← hb.2.2]
  exact shrink_eq_of_value_eq ha.1 hb.1 ha.2.1 hb.2.1 h

theorem norm_zero_iff {v : List Nat} (h : Norm v) : v = [0] ↔ value v = 0 :=
  ⟨fun h0 => h0 ▸ rfl, fun h0 => norm_unique h ⟨limbs_replicate_zero 1, List.cons_ne_nil _ _, rfl⟩ h0⟩

end HyB
