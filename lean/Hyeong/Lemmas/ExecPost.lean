import Hyeong.Lemmas.StepRules
import Hyeong.Lemmas.Runs
/-!
# what a command leaves true: a postcondition calculus for `Res`

`pushWrap` and `popWrap` are the only operations of `Model.Exec` that touch stacks and world; the others only sequence them
(and `흑` re-selects a stack).  So what the two keep, all keep, and the stops of the two are the stops of all (`Carried`).
`StepRel` is the same calculus for relations between two machines.
-/
namespace HyE
open HyP (Area)
variable {N : Type} [NumOps N] {α β : Type}

/-- a normal result satisfies `Q`, a stop satisfies `E` -/
def Res.Post (Q : α → Prop) (E : Stop × World → Prop) : Res α → Prop
  | .ok a => Q a
  | .error e => E e

theorem Res.Post.andThen {Q : α → Prop} {Q' : β → Prop} {E : Stop × World → Prop} {x : Res α} {f : α → Res β}
    (hx : x.Post Q E) (hf : ∀ a, Q a → (f a).Post Q' E) : (x.andThen f).Post Q' E := by
  cases x with
  | error e => exact hx
  | ok a => exact hf a hx

theorem Res.Post.mono {Q Q' : α → Prop} {E E' : Stop × World → Prop} {x : Res α} (hx : x.Post Q E)
    (hq : ∀ a, Q a → Q' a) (he : ∀ e, E e → E' e) : x.Post Q' E' := by
  cases x with
  | error e => exact he e hx
  | ok a => exact hq a hx

theorem Res.Post.of_ok {Q : α → Prop} {E : Stop × World → Prop} {x : Res α} {a : α} (hx : x.Post Q E) (h : x = .ok a) :
    Q a := by subst h; exact hx

theorem Res.Post.of_error {Q : α → Prop} {E : Stop × World → Prop} {x : Res α} {e : Stop × World} (hx : x.Post Q E)
    (h : x = .error e) : E e := by subst h; exact hx

theorem Res.post_iff {Q : α → Prop} {E : Stop × World → Prop} {x : Res α} :
    x.Post Q E ↔ (∀ a, x = .ok a → Q a) ∧ (∀ e, x = .error e → E e) :=
  ⟨fun h => ⟨fun _ => h.of_ok, fun _ => h.of_error⟩, fun h => by
    cases x with
    | ok a => exact h.1 a rfl
    | error e => exact h.2 e rfl⟩

/-- the primitives keep `I` and stop only with `E`, as long as pops are from stacks in `popOk` and pushes onto, and
selections of, stacks in `pushOk`.  Unlike `StepRel.select`, `select` is not told that the new stack is in `popOk`: `I` itself
has to say that the selected stack may be popped from (`hcur` of `Carried.areaCalc`, `Carried.step`). -/
structure Carried (I : M N → Prop) (E : Stop × World → Prop) (popOk pushOk : Nat → Prop) : Prop where
  pop : ∀ {m : M N} {i : Nat}, I m → popOk i → (popWrap m i).Post (fun r => I r.2) E
  push : ∀ {m : M N} {i : Nat} (n : N), I m → pushOk i → (pushWrap m i n).Post I E
  select : ∀ {m : M N} {d : Nat}, I m → pushOk d → I ({ m.1 with cur := d }, m.2)

/-- the stop that a pop from stack `i` can end in: an undecodable input line, or the exit that stacks 1 and 2 stand for -/
inductive PopStop : Nat → Stop → Prop
  | input : PopStop 0 .inputErr
  | exit0 : PopStop 1 (.exit 0)
  | exit1 : PopStop 2 (.exit 1)

/-- the stops that a push of `n` can end in: a write that cannot be rendered -/
inductive PushStop (n : N) : Stop → Prop
  | enc {k : Nat} : NumOps.render n = .encErr k → PushStop n (.encErr k)
  | unspec : NumOps.render n = .unspecified → PushStop n .unspecified

variable {I : M N → Prop} {E : Stop × World → Prop} {popOk pushOk : Nat → Prop}

/-- The `pop` of a `Carried`; `popWrap_lift` takes the same obligations for a relation.  `stop`: the stop that stack `i` can
cause satisfies `E`.  `line`: refilling stack 0 with the line `l` just read keeps `I`.  `raw`: so does a raw pop, from any
machine with `I` (it comes after the refill).  Not carried: `line` is not told that stack 0 was empty and that `l ≠ []`;
nothing is said of the value popped. -/
theorem popWrap_post {m : M N} {i : Nat} (hm : I m) (stop : ∀ e, PopStop i e → E (e, m.2))
    (line : ∀ l rest, i = 0 → m.2.stdin = l :: rest → I (setStack m.1 0 (lineStack l), { m.2 with stdin := rest }))
    (raw : ∀ {a : M N}, I a → I ((popRaw a.1 i).2, a.2)) : (popWrap m i).Post (fun r => I r.2) E := by
  unfold popWrap
  by_cases h0 : i = 0
  · subst h0
    rw [if_pos rfl]
    cases (m.1.stacks 0).isEmpty with
    | false => exact raw hm
    | true =>
      match hst : m.2.stdin with
      | [] => exact raw hm
      | [] :: _ => exact stop _ .input
      | (_ :: _) :: _ => exact raw (line _ _ rfl hst)
  · rw [if_neg h0]
    by_cases h1 : i = 1
    · subst h1
      rw [if_pos rfl]
      exact stop _ .exit0
    · rw [if_neg h1]
      by_cases h2 : i = 2
      · subst h2
        rw [if_pos rfl]
        exact stop _ .exit1
      · rw [if_neg h2]
        exact raw hm

/-- the `push` of a `Carried`, likewise; `text`: writing to stream `i` keeps `I` -/
theorem pushWrap_post {m : M N} {i : Nat} (n : N) (stop : ∀ e, PushStop n e → E (e, m.2))
    (text : ∀ cs, I (m.1, emit m.2 i cs)) (raw : I (pushRaw m.1 i n, m.2)) : (pushWrap m i n).Post I E := by
  unfold pushWrap
  split
  · split
    · exact text _
    · exact stop _ (.enc ‹_›)
    · exact stop _ (.unspec ‹_›)
  · exact raw

theorem Carried.popN (h : Carried I E popOk pushOk) {i : Nat} (hi : popOk i) :
    ∀ (k : Nat) {m : M N}, I m → (popN m i k).Post (fun r => I r.2) E := by
  intro k
  induction k with
  | zero => intro m hm; exact hm
  | succ k ih => intro m hm; exact (h.pop hm hi).andThen fun r hr => (ih hr).andThen fun _ h2 => h2

theorem Carried.pushAll (h : Carried I E popOk pushOk) {i : Nat} (hi : pushOk i) :
    ∀ (l : List N) {m : M N}, I m → (pushAll m i l).Post I E := by
  intro l
  induction l with
  | nil => intro m hm; exact hm
  | cons x xs ih => intro m hm; exact (h.push x hm hi).andThen fun _ h1 => ih h1

/-- a command pushes onto the selected stack and onto stack `dots`, and (all but `형`) pops from the selected stack -/
theorem Carried.execCmd (h : Carried I E popOk pushOk) {m : M N} (c : Cmd) (hm : I m) (hcur : pushOk m.1.cur)
    (hpop : c.kind ≠ 0 → popOk m.1.cur) (hd : c.kind ≠ 0 → pushOk c.dots) : (execCmd m c).Post I E := by
  by_cases hk : c.kind = 0
  · rw [exec_push hk]
    exact h.push _ hm hcur
  have hpop := hpop hk
  have hd := hd hk
  unfold HyE.execCmd
  split
  · exact absurd ‹c.kind = 0› hk
  · exact (h.popN hpop _ hm).andThen fun _ h1 => h.push _ h1 hd
  · exact (h.popN hpop _ hm).andThen fun _ h1 => h.push _ h1 hd
  · exact (h.popN hpop _ hm).andThen fun _ h1 => (h.pushAll hcur _ h1).andThen fun _ h2 => h.push _ h2 hd
  · exact (h.popN hpop _ hm).andThen fun _ h1 => (h.pushAll hcur _ h1).andThen fun _ h2 => h.push _ h2 hd
  · exact (h.pop hm hpop).andThen fun _ h1 => (h.pushAll hd _ h1).andThen fun _ h2 =>
      (h.push _ h2 hcur).andThen fun _ h3 => h.select h3 hd

theorem Carried.areaCalc (h : Carried I E popOk pushOk) (hcur : ∀ m : M N, I m → popOk m.1.cur) (cnt : Nat) :
    ∀ (ar : Area) {m : M N}, I m → (areaCalc m cnt ar).Post (fun r => I r.2) E := by
  intro ar
  induction ar with
  | nil => intro m hm; exact hm
  | val t l r ihl ihr =>
    intro m hm
    rw [areaCalc_val]
    by_cases ht : t ≤ 1
    · rw [if_pos ht]
      refine (h.pop hm (hcur m hm)).andThen fun v hv => ?_
      generalize (if t = 0 then Ordering.lt else Ordering.eq) = o
      split
      · exact ihl hv
      · exact ihr hv
    · rw [if_neg ht]
      exact hm

theorem Carried.step (h : Carried I E popOk pushOk) (hcur : ∀ m : M N, I m → popOk m.1.cur ∧ pushOk m.1.cur)
    (hjump : ∀ (m : M N) (c : Cmd) (loc t : Nat), I m → I ((jump m.1 c loc t).1, m.2))
    {p : List Cmd} (hd : ∀ c ∈ p, c.kind ≠ 0 → pushOk c.dots) {c : Cfg N} (hc : I c.m) :
    (step p c).Post (fun c' => I c'.m) E := by
  unfold HyE.step
  split
  · exact hc
  · rename_i cmd hg
    have hs : (stepCmd c.m cmd c.loc).Post (fun r => I r.1) E :=
      (h.execCmd cmd hc (hcur _ hc).2 (fun _ => (hcur _ hc).1) (hd cmd (List.mem_of_getElem? hg))).andThen fun _ h1 =>
        (h.areaCalc (fun m hm => (hcur m hm).1) _ _ h1).andThen fun r h2 => hjump r.2 cmd c.loc r.1 h2
    exact hs.andThen fun _ h3 => h3

theorem Carried.iterOk (h : Carried I E popOk pushOk) (hcur : ∀ m : M N, I m → popOk m.1.cur ∧ pushOk m.1.cur)
    (hjump : ∀ (m : M N) (c : Cmd) (loc t : Nat), I m → I ((jump m.1 c loc t).1, m.2))
    {p : List Cmd} (hd : ∀ c ∈ p, c.kind ≠ 0 → pushOk c.dots) {j : Nat} {c c' : Cfg N} :
    iterOk p j c = some c' → I c.m → I c'.m :=
  iterOk_inv (J := fun c => I c.m) fun _ hs hc => (h.step hcur hjump hd hc).of_ok hs

/-- the stops a step can end in: those of its pops and pushes -/
inductive StepStop (N : Type) [NumOps N] : Stop → Prop
  | pop {i : Nat} {e : Stop} : PopStop i e → StepStop N e
  | push {n : N} {e : Stop} : PushStop n e → StepStop N e

theorem stepStop_carried : Carried (N := N) (fun _ => True) (fun e => StepStop N e.1) (fun _ => True) (fun _ => True) where
  pop := fun _ _ => popWrap_post (I := fun _ => True) trivial (stop := fun _ => .pop) (line := fun _ _ _ _ => trivial)
    (raw := fun _ => trivial)
  push := fun n _ _ => pushWrap_post (I := fun _ => True) n (stop := fun _ => .push) (text := fun _ => trivial) (raw := trivial)
  select := fun _ _ => trivial

theorem step_stop (p : List Cmd) (c : Cfg N) {e : Stop × World} (h : step p c = .error e) : StepStop N e.1 :=
  (stepStop_carried.step (fun _ _ => ⟨trivial, trivial⟩) (fun _ _ _ _ _ => trivial) (fun _ _ _ => trivial) trivial).of_error h

end HyE
