import Hyeong.Lemmas.Level2Basic
/-!
# level 2: what the pre-execution loops visit

One invariant principle per loop (`optLoop_inv`, `optimize2Loop_inv`); that pre-execution is a prefix of the ordinary run
(`_trace`, here) and that it performs no effects (`_quiet`, in `OptQuiet`) are instances.
-/
namespace HyE
variable {N : Type} [NumOps N]

/-- What the guarded iterations of `opt_execute` keep holds where its loop ends: at the configuration reached (`done`), or
at the one whose command part stops (`stop`). -/
theorem optLoop_inv (budget : Nat) (p : List Cmd) (k : Nat) (I : Cfg N → Prop)
    (hstep : ∀ (c : Cfg N) (cmd : Cmd) (m1 : M N) (r : Nat × M N), I c → p[c.loc]? = some cmd → c.loc ≤ k →
      cmdGuard c.m.1 cmd = true → execCmd c.m cmd = .ok m1 → areaGuard m1.1 cmd.area = true →
      areaCalc m1 cmd.areaCount cmd.area = .ok r →
      I ⟨((jump r.2.1 cmd c.loc r.1).1, r.2.2), (jump r.2.1 cmd c.loc r.1).2⟩)
    (fuel : Nat) (m : M N) (loc cnt : Nat) (hI : I ⟨m, loc⟩) :
    match optLoop budget p k fuel m loc cnt with
    | .done m' => ∃ loc', I ⟨m', loc'⟩ ∧ (k + 1 ≤ loc' ∨ p.length ≤ loc')
    | .bail => True
    | .stop e => ∃ (c : Cfg N) (cmd : Cmd) (w : World), I c ∧ c.loc ≤ k ∧ p[c.loc]? = some cmd ∧
        cmdGuard c.m.1 cmd = true ∧ execCmd c.m cmd = .error (e, w) := by
  fun_induction optLoop budget p k fuel m loc cnt with
  | case2 _ m loc _ h => exact ⟨loc, hI, .inl h⟩  -- `loc ≥ k + 1`: `.done`
  | case4 _ m loc _ _ _ h => exact ⟨loc, hI, .inr (List.getElem?_eq_none_iff.mp h)⟩  -- `p[loc]? = none`: `.done`
  | case6 _ m loc _ hl _ cmd hget hg e he =>  -- `execCmd` fails: `.stop`
    exact ⟨⟨m, loc⟩, cmd, e.2, hI, Nat.le_of_lt_succ (Nat.lt_of_not_le hl), hget, by simpa using hg, he⟩
  | case9 _ m loc _ hl _ cmd hget hg m1 he hg2 r ha _ ih =>  -- the recursive call
    exact ih (hstep ⟨m, loc⟩ cmd m1 r hI hget (Nat.le_of_lt_succ (Nat.lt_of_not_le hl)) (by simpa using hg) he (by simpa using hg2) ha)
  | _ => trivial

/-- Pre-executing top-level command `k` (on the code up to it, as `optimize` does) is a sequence of ordinary steps of the
whole code. -/
theorem optLoop_trace (budget : Nat) {p : List Cmd} {k : Nat} (hk : k < p.length) (fuel : Nat) {m : M N} {loc : Nat} (cnt : Nat)
    (hinv : InvK k m.1) (hloc : loc ≤ k + 1) :
    match optLoop budget (p.take (k + 1)) k fuel m loc cnt with
    | .done m' => ∃ j, iterOk p j ⟨m, loc⟩ = some ⟨m', k + 1⟩ ∧ InvK k m'.1
    | .bail => True
    | .stop e => ∃ w, StopsWith p ⟨m, loc⟩ (e, w) := by
  have hget : ∀ {i : Nat}, i ≤ k → (p.take (k + 1))[i]? = p[i]? := fun h => List.getElem?_take_of_lt (Nat.lt_succ_of_le h)
  have := optLoop_inv budget (p.take (k + 1)) k (fun c => ∃ j, iterOk p j ⟨m, loc⟩ = some c ∧ InvK k c.m.1 ∧ c.loc ≤ k + 1)
    (fun c cmd m1 r hI hc hl _ he _ ha => by
      obtain ⟨j, hit, hi, _⟩ := hI
      rw [hget hl] at hc
      have hs := step_of hc he ha
      exact ⟨j + 1, iterOk_snoc hit (List.getElem?_eq_some_iff.mp hc).1 hs, step_invK hi hl hs⟩)
    fuel m loc cnt ⟨0, rfl, hinv, hloc⟩
  generalize optLoop budget (p.take (k + 1)) k fuel m loc cnt = out at this ⊢
  cases out with
  | done m' =>
    obtain ⟨loc', ⟨j, hit, hi, (hle : loc' ≤ k + 1)⟩, hor⟩ := this
    rw [List.length_take_of_le hk] at hor
    have : loc' = k + 1 := by omega
    subst this
    exact ⟨j, hit, hi⟩
  | bail => trivial
  | stop e =>
    obtain ⟨c, cmd, w, ⟨j, hit, _⟩, hl, hc, _, he⟩ := this
    rw [hget hl] at hc
    exact ⟨w, .after hit (.here (List.getElem?_eq_some_iff.mp hc).1 (step_of_error hc he))⟩

theorem optimize2Loop_inv (budget : Nat) (p : List Cmd) (I : Nat → M N → Prop)
    (hdone : ∀ (k : Nat) (m m' : M N), k < p.length → I k m →
      optLoop budget (p.take (k + 1)) k (optFuel budget k) m k 0 = .done m' → I (k + 1) m')
    (n k : Nat) (m : M N) (hI : I k m) :
    match optimize2Loop budget p n k m with
    | .ok r => I r.idx r.m
    | .error e => ∃ (k : Nat) (m' : M N), k < p.length ∧ I k m' ∧
        optLoop budget (p.take (k + 1)) k (optFuel budget k) m' k 0 = .stop e := by
  fun_induction optimize2Loop budget p n k m with
  | case3 _ k m hk m' ho ih => exact ih (hdone k m m' (Nat.lt_of_not_le hk) hI ho)  -- `optLoop` gives `.done`: the recursive call
  | case5 _ k m hk e ho => exact ⟨k, m, Nat.lt_of_not_le hk, hI, ho⟩  -- `optLoop` gives `.stop`
  | _ => exact hI

/-- Level 2: what `optimize` pre-executes is a prefix of the ordinary run of the same code; an encoding error that ends the
optimisation is met by the ordinary run. -/
theorem optimize2Loop_trace (budget : Nat) (p : List Cmd) (n : Nat) {k : Nat} {m : M N} (hinv : InvK k m.1) (hk : k ≤ p.length) :
    match optimize2Loop budget p n k m with
    | .ok r => ∃ j, iterOk p j ⟨m, k⟩ = some ⟨r.m, r.idx⟩ ∧ InvK r.idx r.m.1 ∧ r.idx ≤ p.length
    | .error e => ∃ w, StopsWith p ⟨m, k⟩ (e, w) := by
  have := optimize2Loop_inv budget p (fun k' m' => ∃ j, iterOk p j ⟨m, k⟩ = some ⟨m', k'⟩ ∧ InvK k' m'.1 ∧ k' ≤ p.length)
    (fun k' m1 m2 hk hI ho => by
      obtain ⟨j, hit, hi, _⟩ := hI
      have := optLoop_trace budget hk (optFuel budget k') 0 hi (Nat.le_succ _)
      rw [ho] at this
      obtain ⟨j1, h1, hi'⟩ := this
      exact ⟨j + j1, iterOk_append hit h1, hi'.mono (Nat.le_succ _), hk⟩)
    n k m ⟨0, rfl, hinv, hk⟩
  generalize optimize2Loop budget p n k m = out at this ⊢
  cases out with
  | ok r => exact this
  | error e =>
    obtain ⟨k', m', hk, ⟨j, hit, hi, _⟩, ho⟩ := this
    have := optLoop_trace budget hk (optFuel budget k') 0 hi (Nat.le_succ _)
    rw [ho] at this
    exact this.imp fun w hs => hs.after hit

/-- the same for `optimize`: level 1 pre-executes nothing (`j = 0`) -/
theorem optimize_prefix {budget level : Nat} {p : List Cmd} {w : World} {code : List Cmd} {size : Nat} {r : Opt2 N}
    (h : optimize budget level p w = .ok (code, size, r)) :
    ∃ j, iterOk code j ⟨(St.init, w), 0⟩ = some ⟨r.m, r.idx⟩ ∧ InvK r.idx r.m.1 ∧ r.idx ≤ code.length := by
  obtain ⟨_, _, hr⟩ := optimize_ok h
  split at hr
  · have := optimize2Loop_trace budget code code.length (m := ((St.init : St N), w)) (InvK.init 0) (Nat.zero_le _)
    rw [hr] at this
    exact this
  · subst hr
    exact ⟨0, rfl, InvK.init 0, Nat.zero_le _⟩

end HyE
