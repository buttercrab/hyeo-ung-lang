import Hyeong.Lemmas.ExecPost
import Hyeong.Lemmas.CompSim
/-!
# two invariants of interpreter runs used by C03 (level 2): `CtlOk` and `Supp` are kept by every step
-/
namespace HyC
open HyE
variable {N : Type} [NumOps N]

theorem step_ctlOk {p : List Cmd} {c c' : Cfg N} (hs : step p c = .ok c') (h : CtlOk p c.m.1) : CtlOk p c'.m.1 :=
  (Targets.step (Q := AreaPos p) h hs fun _ hg hn =>
    let ⟨hlt, hpc⟩ := List.getElem?_eq_some_iff.mp hg; ⟨hlt, hpc ▸ hn⟩).1

theorem iterOk_ctlOk {p : List Cmd} {j : Nat} {c c' : Cfg N} : iterOk p j c = some c' → CtlOk p c.m.1 → CtlOk p c'.m.1 :=
  iterOk_inv (J := fun c => CtlOk p c.m.1) fun _ => step_ctlOk

/-- the selected stack and every non-empty stack lie below the size of the stack vector, so
`get_all_stack_index() = 0..size` lists every stack that has to be restored -/
def Supp (sz : Nat) (s : St N) : Prop := s.cur < sz ∧ ∀ i, sz ≤ i → s.stacks i = []

omit [NumOps N] in
theorem setStack_supp {sz : Nat} {s : St N} (h : Supp sz s) (i : Nat) (l : List N) (hi : i < sz ∨ l = []) :
    Supp sz (setStack s i l) := by
  refine ⟨h.1, fun j hj => ?_⟩
  simp only [setStack]
  split
  · rcases hi with hi | hi
    · omega
    · exact hi
  · exact h.2 j hj

theorem pushRaw_supp {sz : Nat} {s : St N} (h : Supp sz s) (i : Nat) (n : N) (hi : i < sz) : Supp sz (pushRaw s i n) := by
  unfold pushRaw; split
  · exact h
  · exact setStack_supp h i _ (Or.inl hi)

theorem popRaw_supp {sz : Nat} {s : St N} (h : Supp sz s) (i : Nat) : Supp sz (popRaw s i).2 := by
  unfold popRaw
  cases hs : s.stacks i with
  | nil => exact h
  | cons x rest =>
    refine setStack_supp h i _ (.inl ?_)
    rcases Nat.lt_or_ge i sz with h1 | h1
    · exact h1
    · rw [h.2 i h1] at hs; cases hs

theorem popWrap_cur (m : M N) (i : Nat) : ∀ a, popWrap m i = .ok a → a.2.1.cur = m.1.cur := fun _ =>
  (popWrap_post (I := fun a => a.1.cur = m.1.cur) (E := fun _ => True) rfl (stop := fun _ _ => trivial)
    (line := fun _ _ _ _ => rfl) (raw := fun h => (popRaw_cur _ i).trans h)).of_ok

theorem supp_carried {sz : Nat} (h0 : 0 < sz) :
    Carried (N := N) (fun m => Supp sz m.1) (fun _ => True) (fun _ => True) (· < sz) where
  push := fun n h hi => pushWrap_post (I := fun m => Supp sz m.1) n (stop := fun _ _ => trivial) (text := fun _ => h)
    (raw := pushRaw_supp h _ n hi)
  pop := fun h _ => popWrap_post (I := fun m => Supp sz m.1) h (stop := fun _ _ => trivial)
    (line := fun _ _ _ _ => setStack_supp h 0 _ (.inl h0)) (raw := fun ha => popRaw_supp ha _)
  select := fun h hd => ⟨hd, h.2⟩

omit [NumOps N] in
theorem jump_supp {sz : Nat} (s : St N) (c : Cmd) (loc t : Nat) (h : Supp sz s) : Supp sz (jump s c loc t).1 := by
  have key := jump_frame s c loc t
  exact ⟨by rw [key.2]; exact h.1, by rw [key.1]; exact h.2⟩

theorem iterOk_supp {sz : Nat} {p : List Cmd} (h0 : 0 < sz) (hd : ∀ c ∈ p, c.kind ≠ 0 → c.dots < sz) {j : Nat} {c c' : Cfg N} :
    iterOk p j c = some c' → Supp sz c.m.1 → Supp sz c'.m.1 :=
  (supp_carried h0).iterOk (fun _ hm => ⟨trivial, hm.1⟩) (fun m c loc t hm => jump_supp m.1 c loc t hm) hd

end HyC
