import Hyeong.Lemmas.ExecPost
import Hyeong.Lemmas.CompSim
/-!
# one iteration of the emitted loop = the interpreter's steps over that block (`irStep_sim`), and so for the runs

A block is a run of area-free commands (`nilrun_sim`) or one area-carrying command (`single_sim`). The statements have
the form `(∀ r, … = .ok r → A r) ∧ (∀ ew, … = .error ew → B ew)`, which is `Res.Post A B` (`Res.post_iff`): the proofs go
through the postcondition form.
-/
namespace HyC
open HyE
variable {N : Type} [NumOps N]

theorem irBlock_cons_nil {c : Cmd} (hc : c.area = .nil) (k : Nat) (cs : List Cmd) (m : M N) :
    irBlock k (c :: cs) m = (execCmd m c).andThen (irBlock k cs) := by
  simp only [irBlock, hc, areaCalc, Res.andThen]
  rfl

theorem irBlock_single (k : Nat) (c : Cmd) (m : M N) :
    irBlock k [c] m = (execCmd m c).andThen fun m1 => (areaCalc m1 c.areaCount c.area).andThen fun r =>
      .ok (((irJump r.2.1 c k r.1).1, r.2.2), (irJump r.2.1 c k r.1).2) := by
  refine congrArg _ (funext fun m1 => congrArg _ (funext fun r => ?_))
  cases (irJump r.2.1 c k r.1).2 <;> rfl

/-- `pts`, `lat`: any control part put in place of `m`'s (area-free commands neither read nor change it); no such command
looks at the block index `k` either. -/
theorem nilrun_sim (p : List Cmd) (pts : List (Nat × Nat)) (lat : Option Nat) (k : Nat) :
    ∀ (cs : List Cmd), (∀ c ∈ cs, c.area = .nil) → ∀ (m : M N) (loc : Nat) (rest : List Cmd), p.drop loc = cs ++ rest →
    (∀ r, irBlock k cs (ctlM pts lat m) = .ok r → r.2 = none ∧ ∃ m', iterOk p cs.length ⟨m, loc⟩ = some ⟨m', loc + cs.length⟩ ∧
        r.1 = ctlM pts lat m' ∧ m'.1.points = m.1.points ∧ m'.1.latest = m.1.latest) ∧
    (∀ ew, irBlock k cs (ctlM pts lat m) = .error ew → ∃ j c1, iterOk p j ⟨m, loc⟩ = some c1 ∧ c1.loc < p.length ∧ step p c1 = .error ew) := by
  intro cs
  induction cs with
  | nil => exact fun _ m _ _ _ => Res.post_iff.mp ⟨rfl, m, rfl, rfl, rfl, rfl⟩
  | cons c cs ih =>
    intro hnil m loc rest hd
    have hcn := hnil c List.mem_cons_self
    obtain ⟨hget, hd', hlt⟩ := drop_cons_info hd
    rw [irBlock_cons_nil hcn, execCmd_tr, Res.andThen_mapOk]
    refine Res.post_iff.mp ?_
    cases he : execCmd m c with
    | error e => exact StopsWith.here hlt (step_of_error hget he)
    | ok m1 =>
      have hs := step_nil hget hcn he
      have hk := execCmd_ctl he
      refine (Res.post_iff.mpr (ih (fun d hd => hnil d (List.mem_cons_of_mem _ hd)) m1 (loc + 1) rest hd')).mono ?_ ?_
      · intro r ⟨h1, m', h2, h3, h4, h5⟩
        refine ⟨h1, m', ?_, h3, h4.trans hk.1, h5.trans hk.2⟩
        rw [List.length_cons, iterOk_cons hlt hs, h2, Nat.add_assoc, Nat.add_comm 1]
      · exact fun ew h => StopsWith.after (iterOk_one hlt hs) h

theorem single_sim {p : List Cmd} {blocks : List (List Cmd)} {bo : List Nat} (hb : Blocking p blocks bo)
    {c ci : Cfg N} (hr : Rel p blocks bo c ci) (hk : ci.loc < blocks.length) (cmd : Cmd) (hblk : blocks[ci.loc] = [cmd])
    (hca : cmd.area ≠ .nil) (hok : AreaOk cmd.area) :
    c.loc < p.length ∧
    (∀ r, irBlock ci.loc [cmd] ci.m = .ok r → ∃ c', step p c = .ok c' ∧ Rel p blocks bo c' ⟨r.1, r.2.getD (ci.loc + 1)⟩) ∧
    (∀ ew, irBlock ci.loc [cmd] ci.m = .error ew → step p c = .error ew) := by
  obtain ⟨m, loc⟩ := c
  obtain ⟨mi, k⟩ := ci
  have hloc : loc = off blocks k := hr.loc
  have hmi : mi = ctlM (mapPts bo m.1.points) (m.1.latest.map (bmap bo)) m := hr.m
  subst hloc hmi
  have hget := hb.single hk hblk
  refine ⟨(List.getElem?_eq_some_iff.mp hget).1, Res.post_iff.mp ?_⟩
  rw [irBlock_single, execCmd_tr, Res.andThen_mapOk]
  cases he : execCmd m cmd with
  | error e => exact step_of_error hget he
  | ok m1 =>
    simp only [Res.andThen, areaCalc_tr]
    cases ha : areaCalc m1 cmd.areaCount cmd.area with
    | error e => exact (step_at hget).trans (by simp only [stepCmd, he, ha, Res.andThen])
    | ok r =>
      obtain ⟨hp1, hl1⟩ := execCmd_ctl he
      obtain ⟨hp2, hl2⟩ := areaCalc_ctl ha
      have js := jump_sim hb hk hblk hca (areaCalc_tag hok ha)
        ⟨hp2 ▸ hp1 ▸ hr.pts_ok, hl2 ▸ hl1 ▸ hr.lat_ok⟩ r.2.2
      rw [bctl, hp2, hp1, hl2, hl1] at js
      exact ⟨_, step_of hget he ha, js⟩

theorem irStep_sim {p : List Cmd} {blocks : List (List Cmd)} {bo : List Nat} (hb : Blocking p blocks bo)
    (hok : ∀ c ∈ p, AreaOk c.area) {c ci : Cfg N} (hr : Rel p blocks bo c ci) (hk : ci.loc < blocks.length) :
    (∀ ci', irStep blocks ci = .ok ci' → ∃ j c', iterOk p (j + 1) c = some c' ∧ Rel p blocks bo c' ci') ∧
    (∀ ew, irStep blocks ci = .error ew → ∃ j c1, iterOk p j c = some c1 ∧ c1.loc < p.length ∧ step p c1 = .error ew) := by
  have hmem : blocks[ci.loc] ∈ blocks := List.getElem_mem _
  refine Res.post_iff.mp ?_
  simp only [irStep, List.getElem?_eq_getElem hk]
  by_cases hall : ∀ d ∈ blocks[ci.loc], d.area = .nil
  · -- a run of area-free commands
    have hdrop := hb.flat ▸ drop_off blocks ci.loc hk
    rw [← hr.loc] at hdrop
    have := Res.post_iff.mpr (nilrun_sim p (mapPts bo c.m.1.points) (c.m.1.latest.map (bmap bo)) ci.loc _ hall c.m c.loc _ hdrop)
    rw [← hr.m] at this
    refine this.andThen fun r ⟨h1, m', h2, h3, h4, h5⟩ => ?_
    have hlen : blocks[ci.loc].length - 1 + 1 = blocks[ci.loc].length :=
      Nat.sub_add_cancel (List.length_pos_iff.mpr (hb.nonempty _ hmem))
    refine ⟨blocks[ci.loc].length - 1, ⟨m', c.loc + blocks[ci.loc].length⟩, ?_, ?_, ?_, ?_, h4 ▸ hr.pts_ok, h5 ▸ hr.lat_ok⟩
    · rw [hlen]; exact h2
    · rw [h1]; exact (congrArg (· + _) hr.loc).trans (off_succ blocks ci.loc hk).symm
    · rw [h1]; exact hk
    · rw [h4, h5]; exact h3
  · -- an area-carrying command, alone in its block
    obtain ⟨cmd, hcmd⟩ := Classical.not_forall.mp hall
    obtain ⟨hcm, hca⟩ := Classical.not_imp.mp hcmd
    have hblk := hb.alone _ hmem cmd hcm hca
    obtain ⟨hlt, h12⟩ := single_sim hb hr hk cmd hblk hca (hok cmd (hb.flat ▸ List.mem_flatten.mpr ⟨_, hmem, hcm⟩))
    rw [hblk]
    refine ((Res.post_iff.mpr h12).mono (fun _ h => h) fun ew h => StopsWith.here hlt h).andThen fun r ⟨c', hs, hrel⟩ => ?_
    exact ⟨0, c', iterOk_one hlt hs, hrel⟩

theorem irRunN_sim {p : List Cmd} {blocks : List (List Cmd)} {bo : List Nat} (hb : Blocking p blocks bo)
    (hok : ∀ c ∈ p, AreaOk c.area) : ∀ (k : Nat) {c ci : Cfg N}, Rel p blocks bo c ci →
    ∃ n, k ≤ n ∧ seen (irRunN blocks k ci) = seen (runN p n c) := by
  have hiff : ∀ {c ci : Cfg N}, Rel p blocks bo c ci → (ci.loc < blocks.length ↔ c.loc < p.length) := by
    intro c ci hr
    rw [hr.loc, ← hb.flat, ← off_length]
    exact ⟨fun h => off_strict blocks hb.nonempty h (Nat.le_refl _),
      fun h => Nat.lt_of_le_of_ne hr.le fun e => Nat.lt_irrefl _ (e ▸ h)⟩
  intro k
  induction k with
  | zero =>
    intro c ci hr
    refine ⟨0, Nat.le_refl _, ?_⟩
    simp only [seen, irRunN, runN, hr.m, ctlM, hiff hr]
  | succ k ih =>
    intro c ci hr
    by_cases hk : ci.loc < blocks.length
    · have hs := irStep_sim hb hok hr hk
      simp only [irRunN, hk, ↓reduceIte]
      cases hst : irStep blocks ci with
      | ok ci' =>
        obtain ⟨j, c', hit, hr'⟩ := hs.1 ci' hst
        obtain ⟨n, hn, hseen⟩ := ih hr'
        refine ⟨j + 1 + n, by omega, ?_⟩
        rw [runN_iterOk hit n]
        exact hseen
      | error ew =>
        obtain ⟨j, c1, hj⟩ := StopsWith.runN (hs.2 ew hst)
        refine ⟨j + (k + 1), by omega, ?_⟩
        rw [hj _ (by omega)]
        rfl
    · have hk' : ¬ c.loc < p.length := fun h => hk ((hiff hr).mpr h)
      refine ⟨k + 1, Nat.le_refl _, ?_⟩
      rw [runN_ended hk']
      simp only [seen, irRunN, hk, ↓reduceIte, hr.m, ctlM]

end HyC
