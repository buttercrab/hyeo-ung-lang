import Hyeong.Model.Cli
/-!
# UTF-8: the byte lines of an encoded text decode to the text's lines

Encoder and decoder (`Model.Cli.utf8Decode`, strict) meet in `Utf8Form`: a scalar value written in base 64, its digits
spread over a lead byte and continuation bytes. All arithmetic is about one digit at a time (`peel_div`, `peel_mod`,
`byte_split`).
-/
namespace HyE

/-- the standard encoding of one character: what a pipe carries for a text -/
def encodeChar (c : Char) : List UInt8 :=
  let n := c.toNat
  if n < 0x80 then [UInt8.ofNat n]
  else if n < 0x800 then [UInt8.ofNat (0xC0 + n / 64), UInt8.ofNat (0x80 + n % 64)]
  else if n < 0x10000 then [UInt8.ofNat (0xE0 + n / 4096), UInt8.ofNat (0x80 + n / 64 % 64), UInt8.ofNat (0x80 + n % 64)]
  else [UInt8.ofNat (0xF0 + n / 262144), UInt8.ofNat (0x80 + n / 4096 % 64), UInt8.ofNat (0x80 + n / 64 % 64), UInt8.ofNat (0x80 + n % 64)]

def utf8Encode (cs : List Char) : List UInt8 := cs.flatMap encodeChar

theorem utf8Encode_cons (c : Char) (cs : List Char) : utf8Encode (c :: cs) = encodeChar c ++ utf8Encode cs :=
  List.flatMap_cons

theorem char_range (c : Char) : c.toNat < 0xD800 ∨ (0xDFFF < c.toNat ∧ c.toNat < 0x110000) := c.valid

theorem toNat_ofNat_valid (n : Nat) (h : n < 0xD800 ∨ (0xDFFF < n ∧ n < 0x110000)) : (Char.ofNat n).toNat = n := by
  simp [Char.ofNat, h, Nat.isValidChar, Char.ofNatAux, Char.toNat]

theorem peel (m n : Nat) (hm : 0 < m := by decide) : ∃ q d, d < m ∧ n = q * m + d :=
  ⟨n / m, n % m, Nat.mod_lt _ hm, (Nat.div_add_mod' n m).symm⟩

theorem peel_div {q d m : Nat} (hd : d < m) : (q * m + d) / m = q := by
  rw [Nat.mul_comm, Nat.mul_add_div (Nat.zero_lt_of_lt hd), Nat.div_eq_of_lt hd]; rfl

theorem peel_mod {q d m : Nat} (hd : d < m) : (q * m + d) % m = d := by
  rw [Nat.mul_add_mod_self_right, Nat.mod_eq_of_lt hd]

theorem byte_split {b : UInt8} (j m : Nat) (lo : j * m ≤ b.toNat) (hi : b.toNat < (j + 1) * m) :
    UInt8.ofNat (j * m + b.toNat % m) = b := by
  rw [← Nat.div_eq_of_lt_le lo hi, Nat.div_add_mod', UInt8.ofNat_toNat]

theorem cont_byte {b : UInt8} (h : 128 ≤ b.toNat ∧ b.toNat ≤ 191) : UInt8.ofNat (128 + b.toNat % 64) = b :=
  byte_split 2 64 h.1 (Nat.lt_succ_of_le h.2)

theorem cont_digit {x : Nat} (h : x < 64) :
    (128 ≤ (UInt8.ofNat (128 + x)).toNat ∧ (UInt8.ofNat (128 + x)).toNat ≤ 191) ∧ (UInt8.ofNat (128 + x)).toNat % 64 = x := by
  rw [UInt8.toNat_ofNat_of_lt' (show 128 + x < 256 by omega)]
  exact ⟨by omega, peel_mod (q := 2) h⟩

/-- The well-formed byte sequences for the scalar value `n` (Unicode, table 3-7), in the terms of `decodeOne`'s
tests: the lead byte's range bounds the leading digit, the lower bound on `n` excludes over-long forms. -/
inductive Utf8Form (n : Nat) : List UInt8 → Prop
  | one : n < 128 → Utf8Form n [.ofNat n]
  | two (a d : Nat) : n = a * 64 + d → 2 ≤ a → a < 32 → d < 64 → Utf8Form n [.ofNat (192 + a), .ofNat (128 + d)]
  | three (a c d : Nat) : n = a * 4096 + c * 64 + d → a < 16 → c < 64 → d < 64 → 2048 ≤ n → ¬ (55296 ≤ n ∧ n ≤ 57343) →
      Utf8Form n [.ofNat (224 + a), .ofNat (128 + c), .ofNat (128 + d)]
  | four (a b c d : Nat) : n = a * 262144 + b * 4096 + c * 64 + d → a ≤ 4 → b < 64 → c < 64 → d < 64 → 65536 ≤ n →
      n ≤ 1114111 → Utf8Form n [.ofNat (240 + a), .ofNat (128 + b), .ofNat (128 + c), .ofNat (128 + d)]

theorem Utf8Form.ne_nil {n : Nat} {bs : List UInt8} (h : Utf8Form n bs) : bs ≠ [] := by
  cases h <;> exact List.cons_ne_nil _ _

theorem Utf8Form.valid {n : Nat} {bs : List UInt8} (h : Utf8Form n bs) : n < 0xD800 ∨ (0xDFFF < n ∧ n < 0x110000) := by
  cases h <;> omega

theorem Utf8Form.high {n : Nat} {bs : List UInt8} (h : Utf8Form n bs) : ∀ b ∈ bs, b.toNat = n ∨ 128 ≤ b.toNat := by
  have hi {k x : Nat} (hk : 128 ≤ k) (h : k + x < 256) : 128 ≤ (UInt8.ofNat (k + x)).toNat := by
    rw [UInt8.toNat_ofNat_of_lt' h]
    exact Nat.le_add_right_of_le hk
  intro b hb
  cases h with
  | one h1 => exact .inl (List.mem_singleton.mp hb ▸ UInt8.toNat_ofNat_of_lt' (Nat.lt_trans h1 (by decide)))
  | _ =>
    simp only [List.mem_cons, List.not_mem_nil, or_false] at hb
    rcases hb with rfl | rfl | rfl | rfl <;> exact .inr (hi (by decide) (by omega))

theorem div_64 (n : Nat) : n / 4096 = n / 64 / 64 ∧ n / 262144 = n / 64 / 64 / 64 :=
  ⟨(Nat.div_div_eq_div_mul n 64 64).symm, by rw [Nat.div_div_eq_div_mul, Nat.div_div_eq_div_mul]⟩

theorem Utf8Form.encode {ch : Char} {bs : List UInt8} (h : Utf8Form ch.toNat bs) : encodeChar ch = bs := by
  unfold encodeChar
  cases h with
  | one h1 => simp only [h1, reduceIte]
  | two a d hn ha1 ha hd =>
    have g : ¬ ch.toNat < 128 ∧ ch.toNat < 2048 := by omega
    simp only [g, reduceIte]
    simp only [hn, peel_div hd, peel_mod hd]
  | three a c d hn ha hc hd h1 _ =>
    have g : ¬ ch.toNat < 128 ∧ ¬ ch.toNat < 2048 ∧ ch.toNat < 65536 := by omega
    simp only [g, reduceIte]
    -- in nested form the quotients and remainders by 64 are the digits
    have hn' : ch.toNat = (a * 64 + c) * 64 + d := by rw [hn, Nat.add_mul, Nat.mul_assoc]
    simp only [div_64, hn', peel_div hd, peel_div hc, peel_mod hd, peel_mod hc]
  | four a b c d hn _ hb hc hd h1 _ =>
    have g : ¬ ch.toNat < 128 ∧ ¬ ch.toNat < 2048 ∧ ¬ ch.toNat < 65536 := by omega
    simp only [g, reduceIte]
    have hn' : ch.toNat = ((a * 64 + b) * 64 + c) * 64 + d := by
      simp only [hn, Nat.add_mul, Nat.mul_assoc, Nat.reduceMul]
    simp only [div_64, hn', peel_div hd, peel_div hc, peel_div hb, peel_mod hd, peel_mod hc, peel_mod hb]

theorem Utf8Form.decode {n : Nat} {bs : List UInt8} (h : Utf8Form n bs) (rest : List UInt8) :
    decodeOne (bs ++ rest) = some (Char.ofNat n, rest) := by
  unfold decodeOne
  simp only [UInt8.lt_iff_toNat_lt, UInt8.le_iff_toNat_le, UInt8.reduceToNat, Bool.and_eq_true, Bool.not_eq_true',
    Bool.and_eq_false_iff, decide_eq_true_eq, decide_eq_false_iff_not, ← Decidable.not_and_iff_not_or_not]
  cases h with
  | one h1 =>
    simp only [List.cons_append, List.nil_append, UInt8.toNat_ofNat_of_lt' (Nat.lt_trans h1 (by decide)), h1, reduceIte]
  | two a d hn ha1 ha hd =>
    have g : ¬ 192 + a < 128 ∧ 194 ≤ 192 + a ∧ 192 + a ≤ 223 := by omega
    simp only [List.cons_append, List.nil_append, UInt8.toNat_ofNat_of_lt' (show 192 + a < 256 by omega), cont_digit hd,
      peel_mod (q := 6) ha, ← hn, g, and_self, reduceIte]
  | three a c d hn ha hc hd h1 h3 =>
    have g : ¬ 224 + a < 128 ∧ ¬ 224 + a ≤ 223 ∧ 224 ≤ 224 + a ∧ 224 + a ≤ 239 := by omega
    simp only [List.cons_append, List.nil_append, UInt8.toNat_ofNat_of_lt' (show 224 + a < 256 by omega), cont_digit hc,
      cont_digit hd, peel_mod (q := 14) ha, ← hn, g, h1, h3, and_self, and_false, not_false_eq_true, reduceIte]
  | four a b c d hn ha hb hc hd h1 h2 =>
    have g : ¬ 240 + a < 128 ∧ ¬ 240 + a ≤ 223 ∧ ¬ 240 + a ≤ 239 ∧ 240 ≤ 240 + a ∧ 240 + a ≤ 244 := by omega
    simp only [List.cons_append, List.nil_append, UInt8.toNat_ofNat_of_lt' (show 240 + a < 256 by omega), cont_digit hb,
      cont_digit hc, cont_digit hd, peel_mod (q := 30) (show a < 8 by omega), ← hn, g, h1, h2, and_self, and_false, reduceIte]

theorem encodeChar_form (ch : Char) : Utf8Form ch.toNat (encodeChar ch) := by
  suffices h : ∃ bs, Utf8Form ch.toNat bs by
    obtain ⟨bs, h⟩ := h
    rw [h.encode]; exact h
  have hv : ¬ (55296 ≤ ch.toNat ∧ ch.toNat ≤ 57343) ∧ ch.toNat ≤ 1114111 := by have := char_range ch; omega
  by_cases h1 : ch.toNat < 128
  · exact ⟨_, .one h1⟩
  obtain ⟨q, d, hd, hn⟩ := peel 64 ch.toNat
  by_cases h2 : ch.toNat < 2048
  · exact ⟨_, .two _ _ hn (by omega) (by omega) hd⟩
  obtain ⟨p, c, hc, rfl⟩ := peel 64 q
  by_cases h3 : ch.toNat < 65536
  · exact ⟨_, .three _ _ _ (by rw [hn, Nat.add_mul, Nat.mul_assoc]) (by omega) hc hd (Nat.le_of_not_lt h2) hv.1⟩
  obtain ⟨a, b, hb, rfl⟩ := peel 64 p
  exact ⟨_, .four a _ _ _ (by simp only [hn, Nat.add_mul, Nat.mul_assoc, Nat.reduceMul]) (by omega) hb hc hd
    (Nat.le_of_not_lt h3) hv.2⟩

theorem decodeOne_encodeChar (c : Char) (rest : List UInt8) :
    decodeOne (encodeChar c ++ rest) = some (c, rest) := by
  rw [(encodeChar_form c).decode, Char.ofNat_toNat]

theorem decodeF_encode : ∀ (cs : List Char) (f : Nat), cs.length ≤ f → utf8DecodeF f (utf8Encode cs) = some cs := by
  intro cs
  induction cs with
  | nil => intro f _; cases f <;> rfl
  | cons c cs ih =>
    intro f hf
    cases f with
    | zero => simp at hf
    | succ f =>
      have h1 := decodeOne_encodeChar c (utf8Encode cs)
      rw [utf8Encode_cons]
      obtain ⟨b, bs, hb⟩ := List.exists_cons_of_ne_nil (encodeChar_form c).ne_nil
      rw [hb] at h1 ⊢
      simp only [List.cons_append] at h1 ⊢
      simp only [utf8DecodeF, h1, ih f (by simp at hf; omega), Option.map_some]

theorem length_le_encode (cs : List Char) : cs.length ≤ (utf8Encode cs).length := by
  induction cs with
  | nil => exact Nat.le_refl 0
  | cons c cs ih =>
    rw [utf8Encode_cons, List.length_append, List.length_cons, Nat.add_comm]
    exact Nat.add_le_add (List.length_pos_iff.mpr (encodeChar_form c).ne_nil) ih

theorem decode_encode (cs : List Char) : utf8Decode (utf8Encode cs) = some cs :=
  decodeF_encode cs _ (length_le_encode cs)

/-- in the shape `decodeOne_inv` needs once the decoder's tests on `bs` are settled -/
theorem Utf8Form.inv {n : Nat} {bs r rest : List UInt8} {c : Char} (hf : Utf8Form n bs)
    (h : some (Char.ofNat n, r) = some (c, rest)) : bs ++ r = encodeChar c ++ rest := by
  cases h
  rw [Utf8Form.encode (toNat_ofNat_valid n hf.valid ▸ hf)]

/-- the decoder accepts only shortest forms of scalar values -/
theorem decodeOne_inv (bs : List UInt8) (c : Char) (rest : List UInt8) (h : decodeOne bs = some (c, rest)) :
    bs = encodeChar c ++ rest := by
  have lt {k m : Nat} (hm : 0 < m := by decide) : k % m < m := Nat.mod_lt _ hm
  cases bs with
  | nil => cases h
  | cons b0 r0 =>
    dsimp only [decodeOne] at h
    simp only [UInt8.lt_iff_toNat_lt, UInt8.le_iff_toNat_le, UInt8.reduceToNat, Bool.and_eq_true, Bool.not_eq_true',
      Bool.and_eq_false_iff, decide_eq_true_eq, decide_eq_false_iff_not, ← Decidable.not_and_iff_not_or_not] at h
    by_cases h0 : b0.toNat < 128
    · rw [if_pos h0] at h
      have f := Utf8Form.one h0
      rw [UInt8.ofNat_toNat] at f
      exact f.inv h
    rw [if_neg h0] at h
    by_cases h0 : 194 ≤ b0.toNat ∧ b0.toNat ≤ 223
    · rw [if_pos h0] at h
      match r0, h with
      | [], h => cases h
      | b1 :: r1, h =>
        obtain ⟨h1, h⟩ := Option.ite_none_right_eq_some.mp h
        have f := Utf8Form.two (b0.toNat % 32) (b1.toNat % 64) rfl (by omega) lt lt
        rw [byte_split 6 32 (by omega) (by omega), cont_byte h1] at f
        exact f.inv h
    rw [if_neg h0] at h
    by_cases h0 : 224 ≤ b0.toNat ∧ b0.toNat ≤ 239
    · rw [if_pos h0] at h
      match r0, h with
      | [], h | [_], h => cases h
      | b1 :: b2 :: r2, h =>
        obtain ⟨⟨⟨⟨h1, h2⟩, hlo⟩, hs⟩, h⟩ := Option.ite_none_right_eq_some.mp h
        have f := Utf8Form.three _ _ _ rfl lt lt lt hlo hs
        rw [byte_split 14 16 h0.1 (by omega), cont_byte h1, cont_byte h2] at f
        exact f.inv h
    rw [if_neg h0] at h
    by_cases h0 : 240 ≤ b0.toNat ∧ b0.toNat ≤ 244
    · rw [if_pos h0] at h
      match r0, h with
      | [], h | [_], h | [_, _], h => cases h
      | b1 :: b2 :: b3 :: r3, h =>
        obtain ⟨⟨⟨⟨⟨h1, h2⟩, h3⟩, hlo⟩, hhi⟩, h⟩ := Option.ite_none_right_eq_some.mp h
        have f := Utf8Form.four (b0.toNat % 8) _ _ _ rfl (by omega) lt lt lt hlo hhi
        rw [byte_split 30 8 h0.1 (by omega), cont_byte h1, cont_byte h2, cont_byte h3] at f
        exact f.inv h
    rw [if_neg h0] at h
    cases h

theorem decodeF_inv : ∀ (f : Nat) (bs : List UInt8) (cs : List Char), utf8DecodeF f bs = some cs → bs = utf8Encode cs := by
  intro f
  induction f with
  | zero =>
    intro bs cs h
    cases bs with
    | nil => cases h; rfl
    | cons b r => cases h
  | succ f ih =>
    intro bs cs h
    cases bs with
    | nil => cases h; rfl
    | cons b r =>
      rw [utf8DecodeF] at h
      split at h
      · cases h
      · rename_i c rest hd
        obtain ⟨cs', hr, rfl⟩ := Option.map_eq_some_iff.mp h
        rw [decodeOne_inv _ c rest hd, ih rest cs' hr, utf8Encode_cons]

theorem decode_iff (bs : List UInt8) (cs : List Char) : utf8Decode bs = some cs ↔ bs = utf8Encode cs :=
  ⟨decodeF_inv _ bs cs, fun h => by rw [h]; exact decode_encode cs⟩

theorem encodeChar_newline : encodeChar '\n' = [0x0A] := by decide

theorem encodeChar_no_lf (c : Char) (h : c ≠ '\n') : ∀ b ∈ encodeChar c, b ≠ 0x0A := by
  intro b hb e
  subst e
  rcases (encodeChar_form c).high _ hb with e | e
  · exact h (by rw [← Char.ofNat_toNat c, ← e]; rfl)
  · exact absurd e (by decide)

theorem splitByteLines_prefix : ∀ (bs : List UInt8) (rest : List UInt8), bs ≠ [] → (∀ b ∈ bs, b ≠ 0x0A) →
    splitByteLines (bs ++ rest) = match splitByteLines rest with | [] => [bs] | l :: ls => (bs ++ l) :: ls := by
  intro bs
  induction bs with
  | nil => intro rest h; exact absurd rfl h
  | cons b bs ih =>
    intro rest _ hno
    have hb : b ≠ 0x0A := hno b (by simp)
    simp only [List.cons_append, splitByteLines, hb, ↓reduceIte]
    cases bs with
    | nil => simp only [List.nil_append]; cases splitByteLines rest <;> rfl
    | cons b2 bs2 =>
      rw [ih rest (by simp) (fun x hx => hno x (by simp [hx]))]
      cases splitByteLines rest <;> rfl

theorem splitByteLines_encode : ∀ (s : List Char), splitByteLines (utf8Encode s) = (splitLines s).map utf8Encode := by
  intro s
  induction s with
  | nil => rfl
  | cons c cs ih =>
    rw [utf8Encode_cons]
    by_cases hc : c = '\n'
    · subst hc
      rw [encodeChar_newline]
      simp only [List.cons_append, List.nil_append, splitByteLines, ↓reduceIte, splitLines, ih, List.map_cons]
      rfl
    · rw [splitByteLines_prefix (encodeChar c) _ (encodeChar_form c).ne_nil (encodeChar_no_lf c hc), ih]
      simp only [splitLines, hc, ↓reduceIte]
      cases splitLines cs <;> simp [utf8Encode]

theorem decodeLines_encode (s : List Char) : decodeLines (utf8Encode s) = splitLines s := by
  unfold decodeLines
  rw [splitByteLines_encode, List.map_map]
  have : ((fun l => (utf8Decode l).getD []) ∘ utf8Encode) = id := by
    funext l; simp [decode_encode]
  rw [this, List.map_id]

end HyE
