import Hyeong.Lemmas.BigMul
import Hyeong.Lemmas.BigLess
/-!
`div_core`: the quotient is searched bit by bit from the top; a trial bit stays unless `lhs < v * rhs`. The invariant
of the search is `Near`.
-/
namespace HyB

theorem B_eq : B = 2 ^ 32 := rfl

theorem B_pow (i j : Nat) : B ^ i * 2 ^ j = 2 ^ (32 * i + j) := by
  rw [B_eq, ← Nat.pow_mul, ← Nat.pow_add]

theorem addAt_append (a : List Nat) (m : Nat) (hi : List Nat) (d : Nat) :
    addAt (a ++ m :: hi) a.length d = a ++ (m + d) :: hi := by
  induction a with
  | nil => rfl
  | cons x a ih => exact congrArg (x :: ·) ih

theorem divBits_succ (lhs rhs : List Nat) (i j : Nat) (v : List Nat) : divBits lhs rhs i (j + 1) v =
    divBits lhs rhs i j (if lessCore lhs (multCore (addAt v i (2 ^ j)) rhs) then v else addAt v i (2 ^ j)) := rfl

theorem divLimbs_succ (lhs rhs : List Nat) (i : Nat) (v : List Nat) :
    divLimbs lhs rhs (i + 1) v = divLimbs lhs rhs i (divBits lhs rhs i 32 v) := rfl

theorem bit_room {m j : Nat} (hm : m < B) (hj : j < 32) (hd : 2 ^ (j + 1) ∣ m) : m + 2 ^ j < B := by
  have h32 : 2 ^ (j + 1) ∣ B := Nat.pow_dvd_pow 2 hj
  have : 2 ^ (j + 1) ≤ B - m := Nat.le_of_dvd (Nat.sub_pos_of_lt hm) (Nat.dvd_sub h32 hd)
  exact Nat.lt_of_lt_of_le (Nat.add_lt_add_left (Nat.pow_lt_pow_right (by decide) (Nat.lt_succ_self j)) m)
    (Nat.add_le_of_le_sub' (Nat.le_of_lt hm) this)

theorem value_bit (a : List Nat) (m j : Nat) (hi : List Nat) :
    value (a ++ (m + 2 ^ j) :: hi) = value (a ++ m :: hi) + 2 ^ (32 * a.length + j) := by
  rw [value_append, value_append, value, value, Nat.add_right_comm, Nat.mul_add, ← Nat.add_assoc, B_pow]

/-- the search has found the bits of `q` from bit `p` up -/
def Near (q p : Nat) (v : List Nat) : Prop := value v ≤ q ∧ q < value v + 2 ^ p

theorem Near.step {q p : Nat} {v v' : List Nat} (h : Near q (p + 1) v) (e : value v' = value v + 2 ^ p) :
    (q < value v' → Near q p v) ∧ (value v' ≤ q → Near q p v') :=
  ⟨fun hlt => ⟨h.1, e ▸ hlt⟩, fun hle => ⟨hle, by rw [e, Nat.add_assoc, ← Nat.two_mul, ← Nat.pow_succ']; exact h.2⟩⟩

/-- the bit loop for limb `i = a.length`; `2 ^ j ∣ m`: the bits of the limb still to be tried are clear -/
theorem divBits_inv {lhs rhs : List Nat} (hl : Limbs lhs) (hr : Limbs rhs) (hR : 0 < value rhs) {a hi : List Nat}
    (ha : Limbs a) (hhi : Limbs hi) : ∀ (j m : Nat), j ≤ 32 → m < B → 2 ^ j ∣ m →
    Near (value lhs / value rhs) (32 * a.length + j) (a ++ m :: hi) →
    ∃ m', m' < B ∧ divBits lhs rhs a.length j (a ++ m :: hi) = a ++ m' :: hi ∧
      Near (value lhs / value rhs) (32 * a.length) (a ++ m' :: hi) := by
  intro j
  induction j with
  | zero => exact fun m _ hm _ h => ⟨m, hm, rfl, h⟩
  | succ j ih =>
    intro m hj hm hd h
    have hroom := bit_room hm hj hd
    have hd' : 2 ^ j ∣ m := Nat.dvd_trans (Nat.pow_dvd_pow 2 (Nat.le_succ j)) hd
    have hm' := multCore_spec (limbs_append ha (limbs_cons.mpr ⟨hroom, hhi⟩)) hr
    have hless := lessCore_iff hl hm'.2.1
    rw [hm'.1] at hless
    obtain ⟨keep, set⟩ := h.step (value_bit a m j hi)
    rw [divBits_succ, addAt_append]
    by_cases hc : lessCore lhs (multCore (a ++ (m + 2 ^ j) :: hi) rhs) = true
    · rw [if_pos hc]
      exact ih m (Nat.le_of_succ_le hj) hm hd' (keep ((Nat.div_lt_iff_lt_mul hR).mpr (hless.mp hc)))
    · rw [if_neg hc]
      exact ih _ (Nat.le_of_succ_le hj) hroom (Nat.dvd_add hd' (Nat.dvd_refl _))
        (set ((Nat.le_div_iff_mul_le hR).mpr (Nat.le_of_not_lt (mt hless.mpr hc))))

/-- the `i` low limbs are still zero, so limb `i - 1` starts with all its bits clear -/
theorem divLimbs_inv {lhs rhs : List Nat} (hl : Limbs lhs) (hr : Limbs rhs) (hR : 0 < value rhs) :
    ∀ (i : Nat) (hi v : List Nat), Limbs hi → v = List.replicate i 0 ++ hi → Near (value lhs / value rhs) (32 * i) v →
    value (divLimbs lhs rhs i v) = value lhs / value rhs ∧ Limbs (divLimbs lhs rhs i v) ∧
    (divLimbs lhs rhs i v).length = v.length := by
  intro i
  induction i with
  | zero =>
    rintro hi _ hhi rfl h
    exact ⟨Nat.le_antisymm h.1 (Nat.le_of_lt_succ h.2), hhi, rfl⟩
  | succ i ih =>
    rintro hi _ hhi rfl h
    rw [List.replicate_succ', List.append_assoc, List.singleton_append] at h ⊢
    have := divBits_inv hl hr hR (limbs_replicate_zero i) hhi 32 0 (Nat.le_refl _) B_pos (Nat.dvd_zero _)
    rw [List.length_replicate] at this
    obtain ⟨m', hm', e, h'⟩ := this h
    obtain ⟨hv, hlim, hlen⟩ := ih (m' :: hi) _ (limbs_cons.mpr ⟨hm', hhi⟩) rfl h'
    rw [divLimbs_succ, e]
    exact ⟨hv, hlim, hlen.trans (by rw [List.length_append, List.length_append]; rfl)⟩

theorem divCore_spec {l r : List Nat} (hl : Limbs l) (hr : Limbs r) (hR : 0 < value r) :
    value (divCore l r) = value l / value r ∧ Limbs (divCore l r) ∧
    (divCore l r).length = max l.length r.length := by
  have h := divLimbs_inv hl hr hR (max l.length r.length) [] _ limbs_nil (List.append_nil _).symm
  rw [List.length_replicate, Near, value_replicate_zero, Nat.zero_add, Nat.pow_mul, ← B_eq] at h
  exact h ⟨Nat.zero_le _, Nat.lt_of_le_of_lt (Nat.div_le_self ..)
    (Nat.lt_of_lt_of_le (value_lt hl) (Nat.pow_le_pow_right B_pos (Nat.le_max_left ..)))⟩

end HyB
