import Hyeong.Spec.Definition
import Hyeong.Lemmas.StepRules
/-!
# the stand-alone definition (`Spec.Definition`) and the generic step at `Option Rat` are the same thing

The definition has its own state and halt types (`HyD.State`, `Halt`) and its own `pop`/`push`, so each lemma relates
results of two different types, and its invariant `OkIn` speaks of the unread input. `Carried` and `StepRel` have the
generic step's operations on both sides and do not apply; `Sim` is their counterpart here.
-/
namespace HyD
open HyE HyP

/-- every line still unread is text (`splitLines` never yields an empty line). In the interpreter model an empty
list in `stdin` stands for a line that is not UTF-8 — something the language definition does not know -/
def OkIn (s : State) : Prop := ∀ l ∈ s.input, l ≠ []

theorem okIn_initial (input : List Char) : OkIn (initial input) := (splitLines_flatten input).2

/-- `x`, an operation of the generic step, does what the definition's operation `y` does: the same halt, or the
same normal result (translated by `g`), whose state (picked out by `st`) has only text left to read -/
def Sim {α β : Type} (st : α → State) (g : α → β) : Result α → Res β → Prop
  | .ok a, x => x = .ok (g a) ∧ OkIn (st a)
  | .error (h, s), x => x = .error (stopOf h, toW s)

variable {α β : Type} {st : α → State} {g : α → β}

theorem Sim.ok {a : α} (h : OkIn (st a)) : Sim st g (.ok a) (.ok (g a)) := ⟨rfl, h⟩

theorem Sim.halt (h : Halt) (s : State) : Sim st g (.error (h, s)) (.error (stopOf h, toW s)) := rfl

@[elab_as_elim]
theorem Sim.elim {P : Result α → Res β → Prop} {y : Result α} {x : Res β} (h : Sim st g y x)
    (halt : ∀ hl s, P (.error (hl, s)) (.error (stopOf hl, toW s)))
    (ok : ∀ a, OkIn (st a) → P (.ok a) (.ok (g a))) : P y x := by
  cases y with
  | error e => cases h; exact halt e.1 e.2
  | ok a => obtain ⟨rfl, ha⟩ := h; exact ok a ha

abbrev withM {τ : Type} (r : τ × State) : τ × M V := (r.1, toM r.2)

/-- `Sim.elim` for results that pair a value with the state -/
@[elab_as_elim]
theorem Sim.elim₂ {τ : Type} {P : Result (τ × State) → Res (τ × M V) → Prop} {y : Result (τ × State)} {x : Res (τ × M V)}
    (h : Sim Prod.snd withM y x) (halt : ∀ hl s, P (.error (hl, s)) (.error (stopOf hl, toW s)))
    (ok : ∀ v s1, OkIn s1 → P (.ok (v, s1)) (.ok (v, toM s1))) : P y x :=
  h.elim halt fun a => ok a.1 a.2

theorem isScalarValue_iff (n : Nat) : isScalarValue n = true ↔ (n < 0xD800 ∨ (0xDFFF < n ∧ n < 0x110000)) := by
  simp [isScalarValue]

theorem written_eq (v : V) :
    written v = match renderV v with
      | .text t => .ok t
      | .encErr n => .error (.encodingError n)
      | .unspecified => .error .unspecified := by
  cases v with
  | none => rfl
  | some q =>
    -- the same tests, in another order and spelling
    simp only [written, renderV, ← Rat.not_le, ite_not, ge_iff_le, isScalarValue_iff]
    by_cases h : 0 ≤ q
    · by_cases h2 : 4294967296 ≤ q.floor.toNat
      · simp only [h, h2, ↓reduceIte]
      · by_cases h3 : q.floor.toNat < 0xD800 ∨ (0xDFFF < q.floor.toNat ∧ q.floor.toNat < 0x110000) <;>
          simp only [h, h2, h3, ↓reduceIte]
    · simp only [h, ↓reduceIte]

theorem toM_put (s : State) (i : Nat) (l : List V) : toSt (put s i l) = setStack (toSt s) i l := rfl

theorem lineStack_V (line : List Char) : (lineStack line : List V) = line.map (fun c => some (c.toNat : Rat)) := rfl

theorem push_sim (s : State) (i : Nat) (v : V) (hok : OkIn s) : Sim id toM (push s i v) (pushWrap (toM s) i v) := by
  unfold pushWrap push
  have hr : (NumOps.render v : Rendered) = renderV v := rfl
  by_cases h1 : i = 1
  · subst h1
    simp only [true_or, ↓reduceIte, hr, written_eq]
    cases renderV v
    · exact Sim.ok hok
    · exact Sim.halt _ _
    · exact Sim.halt _ _
  · by_cases h2 : i = 2
    · subst h2
      simp only [Nat.reduceEqDiff, or_true, ↓reduceIte, hr, written_eq]
      cases renderV v
      · exact Sim.ok hok
      · exact Sim.halt _ _
      · exact Sim.halt _ _
    · have e : (toM s).1.stacks i = s.stacks i := rfl
      have hn : (NumOps.isNan v = true) = (v = none) := by cases v <;> simp [NumOps.isNan]
      simp only [h1, h2, or_self, ↓reduceIte, pushRaw, e, Bool.and_eq_true, List.isEmpty_iff, hn]
      by_cases hc : v = none ∧ s.stacks i = []
      · simp only [hc, and_self, ↓reduceIte]; exact Sim.ok hok
      · have hc' : ¬ (s.stacks i = [] ∧ v = none) := fun h => hc h.symm
        simp only [hc, hc', ↓reduceIte]; exact Sim.ok hok

/-- taking the top of stack `i` of a state `t`, once input has been seen to -/
theorem top_sim (i : Nat) (t : State) (ht : OkIn t) : Sim Prod.snd withM
    (match t.stacks i with | [] => .ok (none, t) | v :: rest => .ok (v, put t i rest))
    (.ok ((popRaw (toM t).1 i).1, ((popRaw (toM t).1 i).2, (toM t).2))) := by
  have e : (toM t).1.stacks i = t.stacks i := rfl
  simp only [popRaw, e]
  cases t.stacks i with
  | nil => exact Sim.ok ht
  | cons v rest => exact Sim.ok ht

/-- at stack 0 `popWrap` first reads a line if the stack is empty, which is `refill` -/
theorem popWrap_refill (s : State) (hok : OkIn s) : OkIn (refill s) ∧
    popWrap (toM s) 0 = .ok ((popRaw (toM (refill s)).1 0).1, ((popRaw (toM (refill s)).1 0).2, (toM (refill s)).2)) := by
  have e : (toM s).1.stacks 0 = s.stacks 0 := rfl
  have ei : (toM s).2.stdin = s.input := rfl
  unfold refill popWrap
  rw [if_pos rfl, e, ei]
  -- in each case both sides compute
  cases s.stacks 0 with
  | cons v r => exact ⟨hok, rfl⟩
  | nil =>
    cases hi : s.input with
    | nil => exact ⟨hok, rfl⟩
    | cons line rest =>
      cases line with
      | nil => exact absurd rfl (hok [] (hi ▸ List.mem_cons_self))
      | cons c cs => exact ⟨fun l hl => hok l (hi ▸ List.mem_cons_of_mem _ hl), rfl⟩

theorem pop_sim (s : State) (i : Nat) (hok : OkIn s) : Sim Prod.snd withM (pop s i) (popWrap (toM s) i) := by
  match i with
  | 0 =>
    obtain ⟨hr, e⟩ := popWrap_refill s hok
    rw [e]
    exact top_sim 0 (refill s) hr
  | 1 | 2 => exact Sim.halt _ _
  | i + 3 =>
    rw [popWrap_plain (Nat.le_add_left 3 i)]
    exact top_sim (i + 3) s hok

theorem popMany_sim (i : Nat) : ∀ (n : Nat) (s : State), OkIn s → Sim Prod.snd withM (popMany s i n) (popN (toM s) i n) := by
  intro n
  induction n with
  | zero => intro s hok; exact Sim.ok hok
  | succ n ih =>
    intro s hok
    simp only [popMany, popN]
    refine (pop_sim s i hok).elim₂ (fun _ _ => .halt _ _) fun v s1 h1 => ?_
    dsimp only [Res.andThen]
    refine (ih s1 h1).elim₂ (fun _ _ => .halt _ _) fun vs s2 h2 => .ok h2

theorem pushMany_sim (i : Nat) : ∀ (l : List V) (s : State), OkIn s → Sim id toM (pushMany s i l) (pushAll (toM s) i l) := by
  intro l
  induction l with
  | nil => intro s hok; exact Sim.ok hok
  | cons v vs ih =>
    intro s hok
    simp only [pushMany, pushAll]
    exact (push_sim s i v hok).elim (fun _ _ => .halt _ _) fun s1 h1 => ih s1 h1

theorem negated_fun : negated = (NumOps.neg : V → V) := by funext a; cases a <;> rfl
theorem inverted_fun : inverted = (NumOps.inv : V → V) := by funext a; cases a <;> rfl
theorem total_eq (vs : List V) : total vs = vs.foldl NumOps.add NumOps.zero := by
  have : plus = (NumOps.add : V → V → V) := by funext a b; cases a <;> cases b <;> rfl
  rw [total, this]; rfl
theorem product_eq (vs : List V) : product vs = vs.foldl NumOps.mul NumOps.one := by
  have : times = (NumOps.mul : V → V → V) := by funext a b; cases a <;> cases b <;> rfl
  rw [product, this]; rfl

theorem command_sim (s : State) (c : Cmd) (hok : OkIn s) : Sim id toM (command s c) (execCmd (toM s) c) := by
  have hsel : (toM s).1.cur = s.selected := rfl
  unfold execCmd command
  rcases hk : c.kind with _ | _ | _ | _ | _ | k <;>
    simp only [Nat.reduceEqDiff, ↓reduceIte, hsel, negated_fun, inverted_fun, total_eq, product_eq]
  · -- `형`
    exact push_sim s _ _ hok
  · -- `항`
    refine (popMany_sim _ _ s hok).elim₂ (fun _ _ => .halt _ _) fun vs s1 h1 => push_sim s1 _ _ h1
  · -- `핫`
    refine (popMany_sim _ _ s hok).elim₂ (fun _ _ => .halt _ _) fun vs s1 h1 => push_sim s1 _ _ h1
  · -- `흣`
    refine (popMany_sim _ _ s hok).elim₂ (fun _ _ => .halt _ _) fun vs s1 h1 => ?_
    dsimp only [Res.andThen]
    exact (pushMany_sim _ _ s1 h1).elim (fun _ _ => .halt _ _) fun s2 h2 => push_sim s2 _ _ h2
  · -- `흡`
    refine (popMany_sim _ _ s hok).elim₂ (fun _ _ => .halt _ _) fun vs s1 h1 => ?_
    dsimp only [Res.andThen]
    exact (pushMany_sim _ _ s1 h1).elim (fun _ _ => .halt _ _) fun s2 h2 => push_sim s2 _ _ h2
  · -- `흑` (every kind from 5 on)
    refine (pop_sim s _ hok).elim₂ (fun _ _ => .halt _ _) fun v s1 h1 => ?_
    dsimp only [Res.andThen]
    refine (pushMany_sim _ _ s1 h1).elim (fun _ _ => .halt _ _) fun s2 h2 => ?_
    simp only
    exact (push_sim s2 _ _ h2).elim (fun _ _ => .halt _ _) fun s3 h3 => .ok h3

theorem isLess_iff (v : V) (n : Nat) : isLess v n = true ↔ NumOps.cmp v (NumOps.ofNat n : V) = some .lt := by
  cases v with
  | none => simp [isLess, NumOps.cmp, cmpV]
  | some q =>
    show decide (q < (n : Rat)) = true ↔ (if q < (n : Rat) then some Ordering.lt else if q = (n : Rat) then some .eq else some .gt) = some .lt
    by_cases h : q < (n : Rat)
    · simp only [h, decide_true, ↓reduceIte]
    · by_cases h2 : q = (n : Rat) <;> simp [h, h2]

theorem isEqual_iff (v : V) (n : Nat) : isEqual v n = true ↔ NumOps.cmp v (NumOps.ofNat n : V) = some .eq := by
  cases v with
  | none => simp [isEqual, NumOps.cmp, cmpV]
  | some q =>
    show decide (q = (n : Rat)) = true ↔ (if q < (n : Rat) then some Ordering.lt else if q = (n : Rat) then some .eq else some .gt) = some .eq
    by_cases h : q < (n : Rat)
    · have : ¬ q = (n : Rat) := fun e => Rat.lt_irrefl (by rw [e] at h; exact h)
      simp [h, this]
    · by_cases h2 : q = (n : Rat) <;> simp [h, h2]

theorem walk_sim (count : Nat) : ∀ (a : Area) (s : State), OkIn s →
    Sim Prod.snd withM (walk count a s) (areaCalc (toM s) count a) := by
  intro a
  induction a with
  | nil => intro s hok; exact .ok hok
  | val t l r ihl ihr =>
    intro s hok
    have hsel : (toM s).1.cur = s.selected := rfl
    simp only [areaCalc, walk, hsel]
    by_cases h0 : t = 0
    · simp only [h0, ↓reduceIte]
      refine (pop_sim s _ hok).elim₂ (fun _ _ => .halt _ _) fun v s1 h1 => ?_
      dsimp only [Res.andThen]
      by_cases hl : isLess v count = true
      · simp only [hl, (isLess_iff v count).mp hl, ↓reduceIte]; exact ihl s1 h1
      · simp only [hl, Bool.false_eq_true, ↓reduceIte]
        split
        · exact absurd ((isLess_iff v count).mpr ‹_›) hl
        · exact ihr s1 h1
    · by_cases h1 : t = 1
      · simp only [h1, Nat.reduceEqDiff, ↓reduceIte]
        refine (pop_sim s _ hok).elim₂ (fun _ _ => .halt _ _) fun v s1 h1 => ?_
        dsimp only [Res.andThen]
        by_cases hl : isEqual v count = true
        · simp only [hl, (isEqual_iff v count).mp hl, ↓reduceIte]; exact ihl s1 h1
        · simp only [hl, Bool.false_eq_true, ↓reduceIte]
          split
          · exact absurd ((isEqual_iff v count).mpr ‹_›) hl
          · exact ihr s1 h1
      · simp only [h0, h1, ↓reduceIte]; exact .ok hok

theorem go_eq (s : State) (c : Cmd) (pc tag : Nat) :
    jump (toSt s) c pc tag = (toSt (go s c pc tag).1, (go s c pc tag).2) ∧ toW (go s c pc tag).1 = toW s := by
  have e1 : (toSt s).latest = s.returnTo := rfl
  have e2 : (toSt s).points = s.labels := rfl
  unfold jump go lookup
  by_cases h0 : tag = 0
  · simp only [h0, ne_eq, not_true_eq_false, ↓reduceIte, and_self]
  · by_cases h13 : tag = 13
    · simp only [h13, ne_eq, not_true_eq_false, ↓reduceIte, e1]
      cases s.returnTo <;> exact ⟨rfl, rfl⟩
    · simp only [h0, h13, ne_eq, not_false_eq_true, ↓reduceIte, e2]
      cases s.labels.find? (fun e => e.1 == c.areaCount * 16 + tag) with
      | none => exact ⟨rfl, rfl⟩
      | some e =>
        simp only [Option.map_some]
        by_cases hv : e.2 = pc
        · simp only [hv, not_true_eq_false, ↓reduceIte, and_self]
        · have : ¬ pc = e.2 := fun h => hv h.symm
          simp only [hv, this, not_false_eq_true, ↓reduceIte]; exact ⟨rfl, rfl⟩

theorem toStatus_unspecified {s : Status} (h : toStatus s = .stopped .unspecified) : s = .halted .unspecified := by
  cases s with
  | running | ended => cases h
  | halted hl =>
    cases hl with
    | unspecified => rfl
    | exit _ | encodingError _ => cases h

theorem run_eq (p : List Cmd) : ∀ (n : Nat) (s : State) (pc : Nat), OkIn s →
    (runN p n ⟨toM s, pc⟩).1.m.2 = toW (run p n s pc).1 ∧
    (runN p n ⟨toM s, pc⟩).1.loc = (run p n s pc).2.1 ∧
    (runN p n ⟨toM s, pc⟩).2 = toStatus (run p n s pc).2.2 ∧
    ((∀ h, (run p n s pc).2.2 ≠ .halted h) → (runN p n ⟨toM s, pc⟩).1.m.1 = toSt (run p n s pc).1) := by
  intro n
  induction n with
  | zero =>
    intro s pc _
    exact ⟨rfl, rfl, (apply_ite toStatus (pc < p.length) .running .ended).symm, fun _ => rfl⟩
  | succ n ih =>
    intro s pc hok
    simp only [runN, run]
    by_cases hl : pc < p.length
    · simp only [hl, ↓reduceIte, step, List.getElem?_eq_getElem hl, stepCmd]
      refine (command_sim s p[pc] hok).elim (fun h _ => ⟨rfl, rfl, rfl, fun hh => absurd rfl (hh h)⟩) fun s1 h1 => ?_
      dsimp only [Res.andThen]
      refine (walk_sim _ _ s1 h1).elim₂ (fun h _ => ⟨rfl, rfl, rfl, fun hh => absurd rfl (hh h)⟩) fun tag s2 h2 => ?_
      obtain ⟨hg, hw⟩ := go_eq s2 p[pc] pc tag
      have e1 : (toM s2).1 = toSt s2 := rfl
      have e2 : (toM s2).2 = toW s2 := rfl
      have hin : (go s2 p[pc] pc tag).1.input = s2.input := congrArg World.stdin hw
      simp only [e1, e2, hg, ← hw]
      exact ih _ _ fun l hl => h2 l (hin ▸ hl)
    · have hn : p[pc]? = none := List.getElem?_eq_none (Nat.le_of_not_lt hl)
      simp only [hl, ↓reduceIte, hn]
      exact ⟨rfl, trivial, rfl, fun _ => rfl⟩

end HyD
