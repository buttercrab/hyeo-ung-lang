import Hyeong.Lemmas.StepRel
/-!
# simulation between two number interpretations

Numbers related by a `NumSim`, stacks element by element, everything else equal: an instance of `StepRel`, hence a
lock-step simulation of whole runs (`runN_sim`; C01 takes it with the model numbers and the definition's).
-/
namespace HyE

variable {N N' : Type} [NumOps N] [NumOps N'] {R : N → N' → Prop}

structure RS (R : N → N' → Prop) (s : St N) (s' : St N') : Prop where
  cur : s.cur = s'.cur
  points : s.points = s'.points
  latest : s.latest = s'.latest
  stacks : ∀ i, LR R (s.stacks i) (s'.stacks i)

def RM (R : N → N' → Prop) (m : M N) (m' : M N') : Prop := RS R m.1 m'.1 ∧ m.2 = m'.2

/-- results correspond: same stop and same world at the stop, or the definition says unspecified -/
inductive RelRes {α β : Type} (Q : α → β → Prop) : Res α → Res β → Prop
  | ok {a b} : Q a b → RelRes Q (.ok a) (.ok b)
  | err {e w} : RelRes Q (.error (e, w)) (.error (e, w))
  | unspec {x w} : RelRes Q x (.error (.unspecified, w))

/-- a stop the language definition declares unspecified -/
def Unspec (e : Stop × World) : Prop := e.1 = .unspecified

theorem RelRes.of {α β : Type} {Q : α → β → Prop} {x : Res α} {y : Res β} (h : ResRel Eq Unspec Q x y) : RelRes Q x y := by
  cases h with
  | ok hab => exact .ok hab
  | err he => subst he; exact .err
  | top hu => rename_i e; obtain ⟨s, w⟩ := e; cases (hu : s = _); exact .unspec

theorem NumSim.lineStack (hs : NumSim N N' R) (cs : List Char) : LR R (lineStack cs) (lineStack cs) := by
  induction cs with
  | nil => exact .nil
  | cons c cs ih => exact .cons (hs.ofNat _) ih

omit [NumOps N] [NumOps N'] in
theorem RS.setStack {s : St N} {s' : St N'} (h : RS R s s') (i : Nat) {l : List N} {l' : List N'} (hl : LR R l l') :
    RS R (setStack s i l) (setStack s' i l') := by
  refine ⟨h.cur, h.points, h.latest, ?_⟩
  intro j
  simp only [HyE.setStack]
  split
  · exact hl
  · exact h.stacks j

theorem pushRaw_sim (hs : NumSim N N' R) {s : St N} {s' : St N'} (h : RS R s s') (i : Nat) {n : N} {n' : N'}
    (hn : R n n') : RS R (pushRaw s i n) (pushRaw s' i n') := by
  unfold pushRaw
  rw [(h.stacks i).isEmpty, hs.isNan hn]
  split
  · exact h
  · exact h.setStack i (.cons hn (h.stacks i))

theorem popRaw_sim (hs : NumSim N N' R) {s : St N} {s' : St N'} (h : RS R s s') (i : Nat) :
    R (popRaw s i).1 (popRaw s' i).1 ∧ RS R (popRaw s i).2 (popRaw s' i).2 := by
  unfold popRaw
  have := h.stacks i
  generalize s.stacks i = l, s'.stacks i = l' at this ⊢
  cases this with
  | nil => exact ⟨hs.nan, h⟩
  | cons hab hrest => exact ⟨hab, h.setStack i hrest⟩

theorem stepRel_sim (hs : NumSim N N' R) : StepRel Eq Unspec R (RM R) Eq Eq where
  num := hs
  pop := by
    rintro m m' i _ h rfl
    exact popWrap_lift h (hi := fun _ _ => .rfl) (hs := fun _ => ⟨(h.1.stacks 0).isEmpty, congrArg World.stdin h.2⟩)
      (stop := fun _ => by rw [h.2]) (line := fun l _ _ _ => ⟨h.1.setStack 0 (hs.lineStack l), by rw [h.2]⟩)
      (raw := fun hab => ⟨(popRaw_sim hs hab.1 i).1, (popRaw_sim hs hab.1 i).2, hab.2⟩)
  push := by
    rintro m m' i _ n n' h rfl hn
    exact pushWrap_lift (hi := fun _ _ => .rfl) (render := (hs.render hn).imp_left fun hu => ⟨hu, rfl⟩)
      (stop := fun _ => by rw [h.2]) (text := fun _ => ⟨h.1, by rw [h.2]⟩) (raw := ⟨pushRaw_sim hs h.1 i hn, h.2⟩)
  cur h := ⟨h.1.cur, h.1.cur⟩
  select := by rintro m m' i _ h rfl _; exact ⟨⟨rfl, h.1.points, h.1.latest, h.1.stacks⟩, h.2⟩

omit [NumOps N] [NumOps N'] in
theorem jumpRel_sim : JumpRel (RM R) :=
  JumpRel.of (fun h => ⟨h.1.points, h.1.latest⟩) fun h _ _ => ⟨⟨h.1.cur, rfl, rfl, h.1.stacks⟩, h.2⟩

def RCfg (R : N → N' → Prop) (c : Cfg N) (c' : Cfg N') : Prop := RM R c.m c'.m ∧ c.loc = c'.loc

omit [NumOps N] [NumOps N'] in
theorem RCfg.init (w : World) : RCfg R ⟨(St.init, w), 0⟩ ⟨(St.init, w), 0⟩ :=
  ⟨⟨⟨rfl, rfl, rfl, fun _ => .nil⟩, rfl⟩, rfl⟩

theorem step_sim (hs : NumSim N N' R) (p : List Cmd) {c : Cfg N} {c' : Cfg N'} (h : RCfg R c c') :
    ResRel Eq Unspec (RCfg R) (step p c) (step p c') :=
  (stepRel_sim hs).step jumpRel_sim (.same fun _ _ => .same (fun _ => rfl) (fun _ => rfl)) h.1 h.2

theorem runN_sim (hs : NumSim N N' R) (p : List Cmd) (n : Nat) {c : Cfg N} {c' : Cfg N'} (h : RCfg R c c') :
    (runN p n c').2 = .stopped .unspecified ∨
    (obs (runN p n c) = obs (runN p n c') ∧ RS R (runN p n c).1.m.1 (runN p n c').1.m.1) :=
  ((stepRel_sim hs).runN jumpRel_sim (.same fun _ _ => .same (fun _ => rfl) (fun _ => rfl)) n h.1.1 h.1.2 h.2).imp_left
    fun ⟨_, hu, hst⟩ => hst.trans (congrArg Status.stopped hu)

end HyE
