import Hyeong.Model.Exec
/-!
# runs: successful steps (`iterOk`), a stop at the end of them (`StopsWith`), and what `runN` makes of both

Pre-execution (level 2), incremental execution, the compiled blocks and the copy programs are all described in these two
terms.
-/
namespace HyE
variable {N : Type} [NumOps N] {p : List Cmd}

/-- `j` successful steps inside the program -/
def iterOk (p : List Cmd) : Nat → Cfg N → Option (Cfg N)
  | 0, c => some c
  | j+1, c =>
    if c.loc < p.length then
      match step p c with
      | .ok c' => iterOk p j c'
      | .error _ => none
    else none

theorem iterOk_cons {c c' : Cfg N} (hl : c.loc < p.length) (hs : step p c = .ok c') (j : Nat) :
    iterOk p (j + 1) c = iterOk p j c' := by
  show (if c.loc < p.length then (match step p c with | .ok c' => iterOk p j c' | .error _ => none) else none) = _
  rw [if_pos hl, hs]

theorem iterOk_succ {j : Nat} {c c2 : Cfg N} :
    iterOk p (j + 1) c = some c2 ↔ ∃ c1, c.loc < p.length ∧ step p c = .ok c1 ∧ iterOk p j c1 = some c2 := by
  constructor
  · intro h
    have h : (if c.loc < p.length then (match step p c with | .ok c' => iterOk p j c' | .error _ => none) else none) = some c2 := h
    by_cases hl : c.loc < p.length
    · rw [if_pos hl] at h
      cases hs : step p c with
      | error e => rw [hs] at h; cases h
      | ok c1 => rw [hs] at h; exact ⟨c1, hl, rfl, h⟩
    · rw [if_neg hl] at h; cases h
  · rintro ⟨c1, hl, hs, h⟩
    rw [iterOk_cons hl hs]
    exact h

theorem iterOk_one {c c' : Cfg N} (hl : c.loc < p.length) (h : step p c = .ok c') : iterOk p 1 c = some c' :=
  iterOk_cons hl h 0

theorem iterOk_inv {J : Cfg N → Prop} (hstep : ∀ {c c'}, c.loc < p.length → step p c = .ok c' → J c → J c') :
    ∀ {j : Nat} {c c' : Cfg N}, iterOk p j c = some c' → J c → J c' := by
  intro j
  induction j with
  | zero => intro c c' h hc; cases h; exact hc
  | succ j ih =>
    intro c c' h hc
    obtain ⟨c1, hl, hs, h⟩ := iterOk_succ.mp h
    exact ih h (hstep hl hs hc)

theorem iterOk_append : ∀ {i j : Nat} {c c1 c2 : Cfg N}, iterOk p i c = some c1 → iterOk p j c1 = some c2 →
    iterOk p (i + j) c = some c2 := by
  intro i
  induction i with
  | zero => intro j c c1 c2 h1 h2; cases h1; rw [Nat.zero_add]; exact h2
  | succ i ih =>
    intro j c c1 c2 h1 h2
    obtain ⟨c', hl, hs, h1⟩ := iterOk_succ.mp h1
    rw [Nat.add_right_comm, iterOk_cons hl hs]
    exact ih h1 h2

theorem iterOk_snoc {j : Nat} {c0 c c' : Cfg N} (hit : iterOk p j c0 = some c) (hl : c.loc < p.length)
    (hs : step p c = .ok c') : iterOk p (j + 1) c0 = some c' :=
  iterOk_append hit (iterOk_one hl hs)

/-- after some successful steps the next one stops with `e` -/
def StopsWith (p : List Cmd) (c : Cfg N) (e : Stop × World) : Prop :=
  ∃ j c1, iterOk p j c = some c1 ∧ c1.loc < p.length ∧ step p c1 = .error e

theorem StopsWith.here {c : Cfg N} {e : Stop × World} (hl : c.loc < p.length) (hs : step p c = .error e) : StopsWith p c e :=
  ⟨0, c, rfl, hl, hs⟩

theorem StopsWith.after {j : Nat} {c c' : Cfg N} {e : Stop × World} (h : iterOk p j c = some c') (hs : StopsWith p c' e) :
    StopsWith p c e :=
  let ⟨_, c1, h1, hl, he⟩ := hs; ⟨_, c1, iterOk_append h h1, hl, he⟩

theorem runN_iterOk : ∀ {j : Nat} {c c' : Cfg N}, iterOk p j c = some c' → ∀ n, runN p (j + n) c = runN p n c' := by
  intro j
  induction j with
  | zero => intro c c' h n; cases h; rw [Nat.zero_add]
  | succ j ih =>
    intro c c' h n
    obtain ⟨c1, hl, hs, h⟩ := iterOk_succ.mp h
    rw [Nat.add_right_comm]
    simp only [runN, hl, ↓reduceIte, hs]
    exact ih h n

theorem runN_of_iterOk {j : Nat} {c c' : Cfg N} (h : iterOk p j c = some c') :
    runN p j c = (c', if c'.loc < p.length then .running else .ended) := by
  have := runN_iterOk h 0
  rwa [Nat.add_zero] at this

-- inside `StopsWith.*` the bare `runN` is this lemma from here on; the function is written `HyE.runN`
/-- from the step after the stop on, the run shows the stop and the world it carries -/
theorem StopsWith.runN {c : Cfg N} {e : Stop × World} (h : StopsWith p c e) :
    ∃ j, ∃ c1 : Cfg N, ∀ n, j < n → runN p n c = (⟨(c1.m.1, e.2), c1.loc⟩, .stopped e.1) := by
  obtain ⟨j, c1, hit, hl, hs⟩ := h
  refine ⟨j, c1, fun n hn => ?_⟩
  obtain ⟨k, rfl⟩ : ∃ k, n = j + (k + 1) := ⟨n - j - 1, by omega⟩
  rw [runN_iterOk hit]
  simp only [HyE.runN, hl, ↓reduceIte, hs]

theorem runN_stopped : ∀ {n : Nat} {c : Cfg N} {s : Stop}, (runN p n c).2 = .stopped s → ∃ w, StopsWith p c (s, w) := by
  intro n
  induction n with
  | zero => intro c s h; simp only [runN] at h; split at h <;> cases h
  | succ n ih =>
    intro c s h
    simp only [runN] at h
    split at h
    · rename_i hl
      cases hs : step p c with
      | error e => rw [hs] at h; cases h; exact ⟨e.2, .here hl hs⟩
      | ok c' =>
        rw [hs] at h
        obtain ⟨w, hw⟩ := ih h
        exact ⟨w, hw.after (iterOk_one hl hs)⟩
    · cases h

theorem runN_ended {c : Cfg N} (h : ¬ c.loc < p.length) : ∀ n, runN p n c = (c, .ended) := by
  intro n; cases n <;> simp [runN, h]

theorem runN_stable : ∀ {n : Nat} {c : Cfg N}, (runN p n c).2 = .ended → ∀ {n'}, n ≤ n' → runN p n' c = runN p n c := by
  intro n
  induction n with
  | zero =>
    intro c h n' _
    have hl : ¬ c.loc < p.length := fun hl => by simp [runN, hl] at h
    rw [runN_ended hl, runN_ended hl]
  | succ n ih =>
    intro c h n' hn
    by_cases hl : c.loc < p.length
    · obtain ⟨k, rfl⟩ := Nat.exists_eq_add_one_of_ne_zero (Nat.ne_zero_of_lt hn)
      simp only [runN, if_pos hl] at h ⊢
      cases hs : step p c with
      | error e => rfl
      | ok c' => rw [hs] at h; exact ih h (Nat.le_of_succ_le_succ hn)
    · rw [runN_ended hl, runN_ended hl]

/-! ### extending the program -/

theorem step_append {c : Cfg N} (h : c.loc < p.length) (q : List Cmd) : step (p ++ q) c = step p c := by
  unfold step
  rw [List.getElem?_append_left h]

theorem iterOk_append_prog (q : List Cmd) : ∀ {j : Nat} {c c' : Cfg N}, iterOk p j c = some c' → iterOk (p ++ q) j c = some c' := by
  intro j
  induction j with
  | zero => intro c c' h; exact h
  | succ j ih =>
    intro c c' h
    obtain ⟨c1, hl, hs, h⟩ := iterOk_succ.mp h
    exact iterOk_succ.mpr ⟨c1, by rw [List.length_append]; exact Nat.lt_add_right _ hl, (step_append hl q).trans hs, ih h⟩

theorem StopsWith.append_prog {c : Cfg N} {e : Stop × World} (h : StopsWith p c e) (q : List Cmd) : StopsWith (p ++ q) c e :=
  let ⟨_, c1, hit, hl, hs⟩ := h
  ⟨_, c1, iterOk_append_prog q hit, by rw [List.length_append]; exact Nat.lt_add_right _ hl, (step_append hl q).trans hs⟩

end HyE
