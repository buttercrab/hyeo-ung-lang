import Hyeong.Lemmas.ExecPost
import Hyeong.Lemmas.Level2Basic
import Hyeong.Model.Run
/-!
# incremental execution (`execute` per command) and the preloaded program
-/
namespace HyE
variable {N : Type} [NumOps N]

theorem execLoop_trace {p : List Cmd} {fuel : Nat} {c : Cfg N} {r : Res (Cfg N)} : execLoop p fuel c = some r →
    match r with
    | .ok c' => p.length ≤ c'.loc ∧ ∃ j, iterOk p j c = some c'
    | .error e => StopsWith p c e := by
  fun_induction execLoop p fuel c with
  | case1 => intro h; cases h  -- no fuel
  | case2 _ c hl => intro h; cases h; exact ⟨hl, 0, rfl⟩  -- `c.loc ≥ p.length`
  | case3 _ c hl e hs => intro h; cases h; exact .here (Nat.lt_of_not_le hl) hs  -- `step` fails
  | case4 _ c hl c' hs ih =>  -- `step` succeeds: the recursive call
    intro h
    have hl := Nat.lt_of_not_le hl
    cases r with
    | ok c2 => exact (ih h).imp id fun ⟨j, hj⟩ => ⟨j + 1, (iterOk_cons hl hs j).trans hj⟩
    | error e => exact (ih h).after (iterOk_one hl hs)

/-- Incremental = preloaded: entering `cs` one at a time with `execute` (what `run` at level 0, the REPL and the level-1/2
residual run do) is a sequence of ordinary steps of any program `q` that starts with `pre ++ cs`.  `execute` starts each
command at its own index: that this is where the previous one ended is what `InvK` is needed for. -/
theorem executeAll_trace : ∀ (cs : List Cmd) {fuel : Nat} {pre : List Cmd} {m : M N} {r : Res (List Cmd × M N)} {q : List Cmd},
    pre ++ cs <+: q → InvK pre.length m.1 → executeAll fuel pre m cs = some r →
    match r with
    | .ok (code, m') => code = pre ++ cs ∧ ∃ j, iterOk q j ⟨m, pre.length⟩ = some ⟨m', (pre ++ cs).length⟩
    | .error e => StopsWith q ⟨m, pre.length⟩ e := by
  intro cs
  induction cs with
  | nil =>
    intro fuel pre m r q _ _ h
    cases h
    exact ⟨(List.append_nil pre).symm, 0, by rw [List.append_nil]; rfl⟩
  | cons c cs ih =>
    intro fuel pre m r q hq hinv h
    have hq' : pre ++ c :: cs = pre ++ [c] ++ cs := by simp only [List.append_assoc, List.cons_append, List.nil_append]
    rw [hq'] at hq ⊢
    obtain ⟨rest, hq⟩ := hq
    have hq2 : q = pre ++ [c] ++ (cs ++ rest) := by rw [← hq, List.append_assoc]
    simp only [executeAll, execute] at h
    cases hl : execLoop (pre ++ [c]) fuel ⟨m, pre.length⟩ with
    | none => rw [hl] at h; cases h
    | some r1 =>
      rw [hl] at h
      have h1 := execLoop_trace hl
      cases r1 with
      | error e => cases h; exact hq2 ▸ h1.append_prog _
      | ok cfg =>
        obtain ⟨hge, j1, hit1⟩ := h1
        have hk := iterOk_invK (k := pre.length) (Nat.le_of_eq List.length_append) hit1 hinv (Nat.le_succ _)
        have hloc : cfg.loc = (pre ++ [c]).length := Nat.le_antisymm (List.length_append ▸ hk.2) hge
        have hit1' : iterOk q j1 ⟨m, pre.length⟩ = some ⟨cfg.m, (pre ++ [c]).length⟩ :=
          hq2 ▸ hloc ▸ iterOk_append_prog _ hit1
        have h2 := ih ⟨rest, hq⟩ (hk.1.mono (List.length_append ▸ Nat.le_succ _)) h
        cases r with
        | ok cm => exact h2.imp id fun ⟨j2, hj2⟩ => ⟨j1 + j2, iterOk_append hit1' hj2⟩
        | error e => exact h2.after hit1'

theorem executeAll_ends (fuel : Nat) : ∀ (cs pre : List Cmd) (m : M N),
    match executeAll fuel pre m cs with
    | some (.ok (code, _)) => code = pre ++ cs
    | some (.error e) => StepStop N e.1
    | none => True := by
  intro cs
  induction cs with
  | nil => intro pre m; exact (List.append_nil pre).symm
  | cons c cs ih =>
    intro pre m
    simp only [executeAll, execute]
    cases hl : execLoop (pre ++ [c]) fuel ⟨m, pre.length⟩ with
    | none => trivial
    | some r =>
      cases r with
      | error e =>
        obtain ⟨_, c1, _, _, hs⟩ := execLoop_trace hl
        exact step_stop _ c1 hs
      | ok cfg =>
        have := ih (pre ++ [c]) cfg.m
        rw [List.append_assoc] at this
        exact this

theorem executeAll_append (fuel : Nat) : ∀ (cs1 cs2 pre : List Cmd) (m : M N),
    executeAll fuel pre m (cs1 ++ cs2) =
      match executeAll fuel pre m cs1 with
      | none => none
      | some (.error e) => some (.error e)
      | some (.ok r) => executeAll fuel r.1 r.2 cs2 := by
  intro cs1
  induction cs1 with
  | nil => intro cs2 pre m; rfl
  | cons c cs ih =>
    intro cs2 pre m
    simp only [List.cons_append, executeAll]
    cases execute fuel pre m c with
    | none => rfl
    | some r =>
      cases r with
      | error e => rfl
      | ok m' => exact ih cs2 (pre ++ [c]) m'

end HyE
