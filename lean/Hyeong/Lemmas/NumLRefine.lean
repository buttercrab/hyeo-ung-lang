import Hyeong.Model.NumL
import Hyeong.Lemmas.BigGcdCmp
import Hyeong.Lemmas.NumProof
/-!
# `num.rs` over limbs refines `num.rs` over `Int`

`RepL a n`: both fields of `a` represent the fields of `n` (`HyB.Rep`). Every operation of `HyNL` carries
representations to representations of the `Int`-level result.
-/
namespace HyNL
open HyB

def WFL (a : NumL) : Prop := WF a.up ∧ WF a.down

def RepL (a : NumL) (n : HyN.NumI) : Prop := Rep a.up n.up ∧ Rep a.down n.down

theorem WFL.rep {a : NumL} (h : WFL a) : RepL a (toNumI a) := ⟨h.1.rep, h.2.rep⟩

theorem RepL.out {a : NumL} {n : HyN.NumI} (h : RepL a n) : WFL a ∧ toNumI a = n :=
  ⟨⟨h.1.1, h.2.1⟩, by cases n; simp only [toNumI, h.1.2, h.2.2]⟩

variable {a b : NumL} {m n : HyN.NumI}

theorem isPos_iff {x : BigNum} (h : WF x) : HyB.isPos x = HyN.isPosI (toInt x) := h.rep.isPos

theorem RepL.isNan (h : RepL a n) : isNan a = HyN.isNan n := h.2.isZero

theorem repL_nan : RepL nan HyN.nan := ⟨rep_one, rep_zero⟩

theorem RepL.optimize (h : RepL a n) (hd : n.down ≠ 0) : RepL (optimize a) (HyN.optimize n) := by
  have g := h.1.gcd h.2
  have g0 : HyN.gcdE n.up n.down ≠ 0 := fun h0 => by
    have := HyN.gcdE_natAbs n.up n.down
    rw [h0] at this
    exact hd (Int.gcd_eq_zero_iff.mp this.symm).2
  unfold HyNL.optimize HyN.optimize
  simp only [g.isPos, h.2.isPos]
  split
  · exact ⟨h.1.div g.minus (by omega), h.2.div g.minus (by omega)⟩
  · exact ⟨h.1.div g g0, h.2.div g g0⟩

/-- the shape `add` and `mul` share, cf. `HyN.arith_canon` -/
theorem RepL.arith (ha : RepL a m) (hb : RepL b n) {u : BigNum} {x : Int} (hu : Rep u x) :
    RepL (if HyNL.isNan a || HyNL.isNan b then nan else HyNL.optimize ⟨u, HyB.mul a.down b.down⟩)
      (if HyN.isNan m || HyN.isNan n then HyN.nan else HyN.optimize ⟨x, m.down * n.down⟩) := by
  rw [ha.isNan, hb.isNan]
  split
  · exact repL_nan
  · rename_i hn
    simp only [HyN.isNan, Bool.or_eq_true, decide_eq_true_eq, not_or] at hn
    exact RepL.optimize (n := ⟨x, m.down * n.down⟩) ⟨hu, ha.2.mul hb.2⟩ (Int.mul_ne_zero hn.1 hn.2)

theorem RepL.add (ha : RepL a m) (hb : RepL b n) : RepL (add a b) (HyN.add m n) :=
  ha.arith hb ((ha.1.mul hb.2).add (ha.2.mul hb.1))

theorem RepL.mul (ha : RepL a m) (hb : RepL b n) : RepL (mul a b) (HyN.mul m n) :=
  ha.arith hb (ha.1.mul hb.1)

theorem RepL.neg (ha : RepL a m) : RepL (neg a) (HyN.neg m) := ⟨ha.1.neg, ha.2⟩
theorem RepL.minus (ha : RepL a m) : RepL (minus a) (HyN.neg m) := ⟨ha.1.minus, ha.2⟩

theorem RepL.flip (ha : RepL a m) : RepL (flip a) (HyN.flip m) := by
  unfold HyNL.flip HyN.flip
  simp only [ha.isNan, ha.1.isPos]
  split
  · exact ha
  · split
    · exact ⟨ha.2.minus, ha.1.minus⟩
    · exact ⟨ha.2, ha.1⟩

theorem RepL.floor (ha : RepL a m) (hn : m.down ≠ 0) : Rep (floor a) (HyN.floor m) := by
  unfold HyNL.floor HyN.floor
  simp only [ha.2.beq rep_one, decide_eq_true_eq]
  split
  · exact ha.1
  · exact ha.1.div ha.2 hn

theorem RepL.isPos (ha : RepL a m) : isPos a = HyN.isPos m := by
  unfold HyNL.isPos HyN.isPos
  rw [ha.isNan, ha.1.isPos]

theorem RepL.cmp (ha : RepL a m) (hb : RepL b n) : cmp a b = HyN.cmp m n := by
  have he : eqv a b = decide (m = n) := by
    cases m; cases n
    simp only [eqv, ha.1.beq hb.1, ha.2.beq hb.2, HyN.NumI.mk.injEq, Bool.decide_and]
  unfold HyNL.cmp HyN.cmp
  simp only [ha.isNan, hb.isNan, he, decide_eq_true_eq, (ha.1.mul hb.2).cmp (ha.2.mul hb.1), Int.compare_eq_lt]

end HyNL
