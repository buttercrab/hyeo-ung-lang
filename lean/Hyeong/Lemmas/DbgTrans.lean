import Hyeong.Model.Debug
/-!
# What one iteration of the debugger loop can do

For the invariants of the session (`DbgInv`, `Chain`, `QuietD`) `dbgTrans_out` says it once: they are checked against the
eight moves of `DbgMove`, not against the text of `dbgTrans`. What a single command does is an equation (below, "equations
of single commands").
-/
namespace HyE
open HyP
variable {N : Type} [NumOps N]

theorem splitSpaces_ne_nil (s : List Char) : splitSpaces s ≠ [] := by
  cases s with
  | nil => exact List.cons_ne_nil _ _
  | cons c cs =>
    rw [splitSpaces, List.foldr_cons]
    split
    · exact List.cons_ne_nil _ _
    · split <;> exact List.cons_ne_nil _ _

theorem mem_insertSortedNat (a x : Nat) (l : List Nat) : x ∈ insertSortedNat a l ↔ x = a ∨ x ∈ l := by
  induction l with
  | nil => simp [insertSortedNat]
  | cons z zs ih =>
    rw [insertSortedNat]
    split
    · exact List.mem_cons
    · split
      · next h => rw [h, List.mem_cons, ← or_assoc, or_self]
      · rw [List.mem_cons, ih, List.mem_cons, or_left_comm]

theorem mem_foldr_insertSortedNat (l : List Nat) (x : Nat) : x ∈ l.foldr insertSortedNat [] ↔ x ∈ l := by
  induction l with
  | nil => exact Iff.rfl
  | cons y ys ih => rw [List.foldr_cons, mem_insertSortedNat, ih, List.mem_cons]

theorem dbgStep_ok {code : List Cmd} {rest : List (List Char)} {d d' : Dbg N} (h : dbgStep code rest d = .ok d') :
    ∃ sn older c r, d.hist = sn :: older ∧ code[sn.loc]? = some c ∧
      stepCmd (sn.st, ⟨rest, d.bufO, d.bufE⟩) c sn.loc = .ok r ∧
      d' = { d with hist := ⟨r.1.1, r.2, sn.touched ++ touches sn.st c⟩ :: d.hist, bufO := r.1.2.out, bufE := r.1.2.err } := by
  unfold dbgStep at h
  split at h
  · cases h
  · next sn older hh =>
    split at h
    · cases h
    · next c hc =>
      split at h
      · split at h <;> cases h
      · next r hr => cases h; exact ⟨sn, older, c, r, hh, hc, hr, rfl⟩

theorem dbgStep_frame {code : List Cmd} {rest : List (List Char)} {d d' : Dbg N} (h : dbgStep code rest d = .ok d') :
    d'.running = d.running ∧ d'.bps = d.bps ∧ ∃ sn, d'.hist = sn :: d.hist := by
  obtain ⟨_, _, _, _, _, _, _, rfl⟩ := dbgStep_ok h
  exact ⟨rfl, rfl, _, rfl⟩

theorem dbgStep_error {code : List Cmd} {rest : List (List Char)} {d : Dbg N} {sn : Snap N} {older : List (Snap N)}
    (hh : d.hist = sn :: older) (hl : sn.loc < code.length) {e : DbgEnd} {t : List Char}
    (h : dbgStep code rest d = .error (e, t)) (w : String) : e ≠ .crash w := by
  unfold dbgStep at h
  rw [hh] at h
  simp only [List.getElem?_eq_getElem hl] at h
  split at h
  · split at h <;> cases h <;> simp
  · cases h

/-- how an iteration that goes on changes the debugger state -/
inductive DbgMove (code : List Cmd) (len : Nat) (d : Dbg N) : Dbg N → Prop
  /-- `state`, `help`, `break`, an empty or unknown command, a refused one -/
  | same : DbgMove code len d d
  /-- while running, at a breakpoint -/
  | stop : d.running = true → DbgMove code len d { (flushBufs d).1 with running := false }
  /-- while running, elsewhere -/
  | step {rest d2} : d.running = true → dbgStep code rest d = .ok d2 → DbgMove code len d d2
  /-- `next`: one command, its output shown at once -/
  | next {rest d2} : dbgStep code rest d = .ok d2 → DbgMove code len d (flushBufs d2).1
  /-- `run`: one command, whether or not it carries a breakpoint, and on from there -/
  | run {rest d2} : dbgStep code rest d = .ok d2 → DbgMove code len d { d2 with running := true }
  /-- `previous`, except at the start -/
  | back {sn o os} : d.running = false → d.hist = sn :: o :: os → DbgMove code len d { d with hist := o :: os }
  /-- `break N` on a breakpoint -/
  | unset {num} : d.running = false → DbgMove code len d { d with bps := d.bps.filter (· ≠ num) }
  /-- `break N` elsewhere, `N` within the listing -/
  | set {num} : d.running = false → num < len → DbgMove code len d { d with bps := num :: d.bps }

/-- the outcomes of one iteration; `plen` is the length of the parsed listing -/
inductive DbgOut (code : List Cmd) (plen : Nat) (d : Dbg N) : DbgNext N → Prop
  /-- the program has ended, the script has run out, or the command was `exit` -/
  | exit {t} : DbgOut code plen d (.done t (.exit 0))
  /-- the executed command stopped the program -/
  | fail {sn older rest e t' t} : d.hist = sn :: older → sn.loc < code.length →
      dbgStep code rest d = .error (e, t') → DbgOut code plen d (.done t e)
  | noHist {t w} : d.hist = [] → DbgOut code plen d (.done t (.crash w))
  /-- a panic on indexing the listing: the current command or a breakpoint lies beyond it -/
  | index {sn older t w} : d.hist = sn :: older → sn.loc < code.length →
      (plen ≤ sn.loc ∨ ¬∀ b ∈ d.bps, b < plen) → DbgOut code plen d (.done t (.crash w))
  | cont {lines d' t} : DbgMove code plen d d' → DbgOut code plen d (.cont lines d' t)

theorem ite_elim {α : Sort _} {P : α → Prop} {c : Prop} {_ : Decidable c} {a b : α} (ha : P a) (hb : P b) :
    P (if c then a else b) :=
  iteInduction (fun _ => ha) (fun _ => hb)

theorem dbgTrans_out [ShowN N] (fname : List Char) (pcode : List PCmd) (code : List Cmd) (lines : List (List Char))
    (d : Dbg N) : DbgOut code pcode.length d (dbgTrans fname pcode code lines d) := by
  unfold dbgTrans
  split
  · next hh => exact .noHist hh
  next sn older hh =>
  by_cases hl : sn.loc ≥ code.length
  · rw [if_pos hl]; exact .exit
  rw [if_neg hl]
  have hl : sn.loc < code.length := Nat.lt_of_not_le hl
  have step : ∀ rest (f : List Char → List Char) (g : Dbg N → DbgNext N),
      (∀ d2, dbgStep code rest d = .ok d2 → DbgOut code pcode.length d (g d2)) →
      DbgOut code pcode.length d (match dbgStep code rest d with
        | .error (e, t) => .done (f t) e
        | .ok d' => g d') := by
    intro rest f g hg
    cases hs : dbgStep code rest d with
    | error et => exact .fail hh hl hs
    | ok d2 => exact hg d2 hs
  by_cases hr : d.running = true
  · rw [if_pos hr]
    exact ite_elim (.cont (.stop hr)) (step lines id _ fun d2 hs => .cont (.step hr hs))
  rw [if_neg hr]
  have hr : d.running = false := Bool.eq_false_iff.mpr hr
  cases lines with
  | nil => exact .exit
  | cons l rest =>
    dsimp only
    have hp := splitSpaces_ne_nil (trim l)
    generalize splitSpaces (trim l) = parsed at hp
    -- the goals are named in the order of `dbgTrans`'s cascade of `if`s on the command word
    refine ite_elim ?next (ite_elim ?prev (ite_elim ?run (ite_elim ?state (ite_elim ?brk
      (ite_elim ?help (ite_elim ?exit (ite_elim ?empty ?unknown)))))))
    case state | help | empty | unknown => exact .cont .same
    case exit => exact .exit
    case next =>
      cases hpc : pcode[sn.loc]? with
      | none => exact .index hh hl (.inl (List.getElem?_eq_none_iff.mp hpc))
      | some pc => exact step rest _ _ fun d2 hs => .cont (.next hs)
    case run => exact step rest _ _ fun d2 hs => .cont (.run hs)
    case prev =>
      cases older with
      | nil => exact .cont .same
      | cons o os => exact .cont (.back hr hh)
    case brk =>
      rcases parsed with _ | ⟨_, _ | ⟨arg, _⟩⟩
      · exact absurd rfl hp
      · refine iteInduction (fun _ => .cont .same) fun hn => .index hh hl (.inr fun hall => hn ?_)
        exact List.all_eq_true.mpr fun i hi => decide_eq_true (hall i ((mem_foldr_insertSortedNat _ i).mp hi))
      · dsimp only
        cases parseUsize arg with
        | error kind => exact .cont .same
        | ok num =>
          exact iteInduction (fun _ => .cont .same) fun hn =>
            ite_elim (.cont (.unset hr)) (.cont (.set hr (Nat.lt_of_not_le hn)))

variable [ShowN N]

theorem dbgTrans_cont {fname : List Char} {pcode : List PCmd} {code : List Cmd} {lines lines' : List (List Char)}
    {d d' : Dbg N} {t : List Char} (h : dbgTrans fname pcode code lines d = .cont lines' d' t) :
    DbgMove code pcode.length d d' := by
  have out := dbgTrans_out fname pcode code lines d
  rw [h] at out
  cases out with
  | cont hm => exact hm

/-! ## equations of single commands

What one command does is read off `dbgTrans` itself. At the prompt, from `hh : d.hist = sn :: older`, `hl : sn.loc < code.length`,
`hr : d.running = false` and `hcmd : (splitSpaces (trim l)).headD [] = "w".toList`,

  `unfold dbgTrans`
  `simp only [hh, Nat.not_le.mpr hl, hr, hcmd, Bool.false_eq_true, ↓reduceIte, String.toList_inj, String.reduceEq, or_self, or_true]`

goes down the cascade to the branch of `w` (`C11.state_command`, `C11.previous_exact`). `String.toList_inj` and
`String.reduceEq` let simp compare the command words as strings; without them they are compared character by character, at many
times the cost. While running no command is read: `dbgTrans_running`.
-/

/-- the location of the newest snapshot; 0 on an empty history -/
def Dbg.loc (d : Dbg N) : Nat := match d.hist with | sn :: _ => sn.loc | [] => 0

omit [NumOps N] [ShowN N] in
theorem Dbg.loc_eq {d : Dbg N} {sn : Snap N} {older : List (Snap N)} (hh : d.hist = sn :: older) : d.loc = sn.loc := by
  rw [Dbg.loc, hh]

theorem dbgTrans_running (fname : List Char) (pcode : List PCmd) (code : List Cmd) (lines : List (List Char))
    {d : Dbg N} (hne : d.hist ≠ []) (hl : d.loc < code.length) (hr : d.running = true) :
    dbgTrans fname pcode code lines d =
      if d.bps.contains d.loc then .cont lines { (flushBufs d).1 with running := false } (flushBufs d).2
      else match dbgStep code lines d with
        | .error (e, t) => .done t e
        | .ok d' => .cont lines d' [] := by
  cases hh : d.hist with
  | nil => exact absurd hh hne
  | cons sn older =>
    rw [Dbg.loc_eq hh] at hl ⊢
    unfold dbgTrans
    simp only [hh, Nat.not_le.mpr hl, hr, ↓reduceIte]
    split <;> rfl

/-! ## no crash -/

/-- a current snapshot exists, and every breakpoint is 0 or a valid index: nothing indexes beyond the listing -/
def DbgInv (len : Nat) (d : Dbg N) : Prop := d.hist ≠ [] ∧ ∀ b ∈ d.bps, b = 0 ∨ b < len

omit [ShowN N] in
theorem DbgMove.inv {code : List Cmd} {d d' : Dbg N} (hm : DbgMove code code.length d d')
    (hinv : DbgInv code.length d) : DbgInv code.length d' := by
  obtain ⟨hne, hb⟩ := hinv
  cases hm with
  | same | stop => exact ⟨hne, hb⟩
  | step _ hs | next hs | run hs =>
    obtain ⟨_, hbp, sn, hh⟩ := dbgStep_frame hs
    exact ⟨fun e => List.cons_ne_nil _ _ (hh.symm.trans e), hbp.symm ▸ hb⟩
  | back => exact ⟨by simp, hb⟩
  | unset => exact ⟨hne, fun b h => hb b (List.mem_filter.mp h).1⟩
  | set _ hn => exact ⟨hne, fun b h => (List.mem_cons.mp h).elim (fun e => .inr (e ▸ hn)) (hb b)⟩

theorem dbgTrans_no_crash (fname : List Char) {pcode : List PCmd} {code : List Cmd} (hlen : pcode.length = code.length)
    (lines : List (List Char)) {d : Dbg N} (hinv : DbgInv code.length d) (t : List Char) (w : String) :
    dbgTrans fname pcode code lines d ≠ .done t (.crash w) := by
  intro h
  have out := dbgTrans_out fname pcode code lines d
  rw [h] at out
  cases out with
  | fail hh hl hs => exact dbgStep_error hh hl hs w rfl
  | noHist hh => exact hinv.1 hh
  | index hh hl hc =>
    -- `sn.loc < code.length` makes 0 a valid index too
    rcases hc with h1 | h2
    · exact Nat.not_lt.mpr h1 (hlen ▸ hl)
    · exact h2 fun b hb => hlen ▸ (hinv.2 b hb).elim (fun h0 => h0 ▸ Nat.zero_lt_of_lt hl) id

theorem debugLoop_no_crash (fname : List Char) (pcode : List PCmd) (code : List Cmd) (hlen : pcode.length = code.length) :
    ∀ (fuel : Nat) (lines : List (List Char)) (d : Dbg N) (shown : List Char), DbgInv code.length d →
    ∀ w, (debugLoop fname pcode code fuel lines d shown).2 ≠ .crash w := by
  intro fuel
  induction fuel with
  | zero => intro lines d shown _ w; simp [debugLoop]
  | succ fuel ih =>
    intro lines d shown hinv w
    simp only [debugLoop]
    cases ht : dbgTrans fname pcode code lines d with
    | done t e => exact fun he => dbgTrans_no_crash fname hlen lines hinv t w (he ▸ ht)
    | cont lines' d' t => exact ih lines' d' _ ((hlen ▸ dbgTrans_cont ht).inv hinv) w

/-! ## the history -/

/-- `new` is what one `execute_one` makes of `old` (for some contents of the output buffers) -/
def SnapStep (code : List Cmd) (old new : Snap N) : Prop :=
  ∃ c w w', code[old.loc]? = some c ∧ stepCmd (old.st, w) c old.loc = .ok ((new.st, w'), new.loc) ∧
    new.touched = old.touched ++ touches old.st c

/-- the history is a chain of interpreter steps from the initial state (newest first) -/
def Chain (code : List Cmd) : List (Snap N) → Prop
  | [] => False
  | [s0] => s0.st = St.init ∧ s0.loc = 0 ∧ s0.touched = []
  | new :: old :: rest => SnapStep code old new ∧ Chain code (old :: rest)

omit [ShowN N] in
theorem dbgStep_chain {code : List Cmd} {rest : List (List Char)} {d d' : Dbg N} (hc : Chain code d.hist)
    (h : dbgStep code rest d = .ok d') : Chain code d'.hist ∧ d'.hist.tail = d.hist := by
  obtain ⟨sn, older, c, r, hh, hg, hs, rfl⟩ := dbgStep_ok h
  rw [hh] at hc ⊢
  exact ⟨⟨⟨c, _, r.1.2, hg, hs, rfl⟩, hc⟩, rfl⟩

omit [ShowN N] in
theorem DbgMove.chain {code : List Cmd} {len : Nat} {d d' : Dbg N} (hm : DbgMove code len d d') (hc : Chain code d.hist) :
    Chain code d'.hist ∧ (d'.hist = d.hist ∨ d'.hist.tail = d.hist ∨ d'.hist = d.hist.tail) := by
  cases hm with
  | same | stop | unset | set => exact ⟨hc, .inl rfl⟩
  | step _ hs | next hs | run hs => exact ⟨(dbgStep_chain hc hs).1, .inr (.inl (dbgStep_chain hc hs).2)⟩
  | back _ hh => rw [hh] at hc ⊢; exact ⟨hc.2, .inr (.inr rfl)⟩

/-! ## quiet at the prompt -/

/-- nothing is pending in the output buffers while the debugger waits for a command -/
def QuietD (d : Dbg N) : Prop := d.running = false → d.bufO = [] ∧ d.bufE = []

omit [ShowN N] in
theorem DbgMove.quiet {code : List Cmd} {len : Nat} {d d' : Dbg N} (hm : DbgMove code len d d') (hq : QuietD d) :
    QuietD d' := by
  cases hm with
  | same => exact hq
  | stop | next => exact fun _ => ⟨rfl, rfl⟩
  | step hr hs => exact fun h => nomatch hr.symm.trans ((dbgStep_frame hs).1.symm.trans h)
  | run => exact fun h => nomatch h
  | back hr | unset hr | set hr => exact fun _ => hq hr

end HyE
