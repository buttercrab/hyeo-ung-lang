import Hyeong.Lemmas.CopyBasic
import Hyeong.Lemmas.Runs
/-!
# what the copy programs see of the machine, and what their commands do to it

The programs of C14 work on stack 0 (fed from standard input), stack 3 and standard output; a run is followed on a
small record of these (`Scene`), one judgement `Pop`/`Push`/`Exec` per command.

The rules, by stack. 0: `Pop.pre/char/eof/input`, `Push.st0/eof/unread/back`; 1: `Push.out`; 3: `Pop.st3`, `Push.st3/onto`;
above 3: `Push.dump`; none for stack 2.
What the judgements cannot say: a `Scene` has no `latest`, so nothing about the return heart; `Exec` only knows `.ok`, so nothing
about exits. A command with an area is stepped by hand: `At.next` with `step_of` and the `area_*`/`jump_*` lemmas, as in
`cat_print` and `cat_branch`.
-/
namespace HyE
open HyN

@[simp] theorem setStack_cur (s : St NumI) (i : Nat) (l : List NumI) : (setStack s i l).cur = s.cur := rfl
@[simp] theorem setStack_points (s : St NumI) (i : Nat) (l : List NumI) : (setStack s i l).points = s.points := rfl
@[simp] theorem setStack_latest (s : St NumI) (i : Nat) (l : List NumI) : (setStack s i l).latest = s.latest := rfl

/-- stack 0 and the unread standard input together hold exactly `remaining` -/
def Rep (s : St NumI) (w : World) (remaining : List Char) : Prop :=
  ∃ l0, s.stacks 0 = l0.map charNum ∧ l0 ++ w.stdin.flatten = remaining ∧ ∀ l ∈ w.stdin, l ≠ []

/-- stack 0 is `pre` on top of not-yet-consumed characters; together with the unread input they are `rem` -/
def RepP (s : St NumI) (w : World) (pre : List NumI) (rem : List Char) : Prop :=
  ∃ l0, s.stacks 0 = pre ++ l0.map charNum ∧ l0 ++ w.stdin.flatten = rem ∧ ∀ l ∈ w.stdin, l ≠ []

theorem Rep.toRepP {s : St NumI} {w : World} {rem : List Char} (h : Rep s w rem) : RepP s w [] rem := by
  obtain ⟨l0, h1, h2, h3⟩ := h; exact ⟨l0, by simpa using h1, h2, h3⟩

/-- selected stack; what the program has put on stack 0; the input not yet consumed (the rest of stack 0 and the unread
lines); stack 3; standard output; the label table -/
structure Scene where
  cur : Nat
  pre : List NumI
  rem : List Char
  st3 : List NumI
  out : List Char
  pts : List (Nat × Nat)

/-- the machine state `m` looks like `a`, and standard error is empty; every other stack is left open -/
structure View (a : Scene) (m : M NumI) : Prop where
  cur : m.1.cur = a.cur
  rep : RepP m.1 m.2 a.pre a.rem
  st3 : m.1.stacks 3 = a.st3
  out : m.2.out = a.out
  err : m.2.err = []
  pts : m.1.points = a.pts

/-- a change that leaves stack 0 and the world as they are -/
theorem View.frame {a : Scene} {s s' : St NumI} {w : World} (v : View a (s, w)) {st3 : List NumI} {cur : Nat} {pts : List (Nat × Nat)}
    (h0 : s'.stacks 0 = s.stacks 0) (h3 : s'.stacks 3 = st3) (hc : s'.cur = cur) (hp : s'.points = pts) :
    View { a with st3 := st3, cur := cur, pts := pts } (s', w) := by
  obtain ⟨l0, g1, g2⟩ := v.rep
  exact ⟨hc, ⟨l0, h0.trans g1, g2⟩, h3, v.out, v.err, hp⟩

/-- a change of stack 0 and `stdin` only -/
theorem View.feed {a : Scene} {s : St NumI} {w : World} (v : View a (s, w)) {l : List NumI} {ls : List (List Char)} {pre : List NumI}
    {rem : List Char} (h : RepP (setStack s 0 l) { w with stdin := ls } pre rem) :
    View { a with pre := pre, rem := rem } (setStack s 0 l, { w with stdin := ls }) :=
  ⟨v.cur, h, (setStack_ne (by decide)).trans v.st3, v.out, v.err, v.pts⟩

/-- The four judgements `Pop`, `PopN`, `Push`, `Exec`: on every machine with view `a` the operation succeeds and leads to a
machine with view `a'`. -/
def Pop (a : Scene) (i : Nat) (x : NumI) (a' : Scene) : Prop := ∀ m, View a m → ∃ m', popWrap m i = .ok (x, m') ∧ View a' m'
/-- like `Pop`, for `xs.length` pops -/
def PopN (a : Scene) (i : Nat) (xs : List NumI) (a' : Scene) : Prop := ∀ m, View a m → ∃ m', popN m i xs.length = .ok (xs, m') ∧ View a' m'
/-- like `Pop` -/
def Push (a : Scene) (i : Nat) (x : NumI) (a' : Scene) : Prop := ∀ m, View a m → ∃ m', pushWrap m i x = .ok m' ∧ View a' m'
/-- like `Pop`, for the command part of `c` (`execCmd`): not its area, not the jump -/
def Exec (a : Scene) (c : Cmd) (a' : Scene) : Prop := ∀ m, View a m → ∃ m', execCmd m c = .ok m' ∧ View a' m'

theorem View.popCur {a a' : Scene} {m : M NumI} {x : NumI} (v : View a m) (h : Pop a a.cur x a') :
    ∃ m', popWrap m m.1.cur = .ok (x, m') ∧ View a' m' := v.cur ▸ h m v

section
variable {cur : Nat} {pr : List NumI} {rem : List Char} {r3 : List NumI} {o : List Char} {pts : List (Nat × Nat)}

theorem Pop.st3 {x : NumI} : Pop ⟨cur, pr, rem, x :: r3, o, pts⟩ 3 x ⟨cur, pr, rem, r3, o, pts⟩ :=
  fun (s, _) v => ⟨_, pop_plain (by decide) v.st3,
    v.frame (setStack_ne (by decide)) (setStack_same s 3 r3) v.cur v.pts⟩

theorem Pop.pre {x : NumI} : Pop ⟨cur, x :: pr, rem, r3, o, pts⟩ 0 x ⟨cur, pr, rem, r3, o, pts⟩ := by
  intro (s, w) v
  obtain ⟨l0, g1, g2⟩ := v.rep
  exact ⟨_, pop0_cons g1, v.feed ⟨l0, setStack_same .., g2⟩⟩

theorem Pop.char {c : Char} : Pop ⟨cur, [], c :: rem, r3, o, pts⟩ 0 (charNum c) ⟨cur, [], rem, r3, o, pts⟩ := by
  intro (s, w) v
  obtain ⟨l0, (g1 : s.stacks 0 = l0.map charNum), (g2 : l0 ++ w.stdin.flatten = c :: rem), (g3 : ∀ l ∈ w.stdin, l ≠ [])⟩ := v.rep
  cases l0 with
  | cons d ds =>
    obtain ⟨hd, hr⟩ := List.cons.inj g2
    exact hd ▸ ⟨_, pop0_cons g1, v.feed ⟨ds, setStack_same .., hr, g3⟩⟩
  | nil =>
    cases hin : w.stdin with
    | nil => rw [hin] at g2; cases g2
    | cons line lines =>
      rw [hin] at g2 g3
      cases line with
      | nil => exact absurd rfl (g3 [] (by simp))
      | cons d ds =>
        obtain ⟨hd, hr⟩ := List.cons.inj g2
        exact hd ▸ ⟨_, pop0_line g1 hin, v.feed ⟨ds, setStack_same .., hr, fun l hl => g3 l (by simp [hl])⟩⟩

theorem View.eof {s : St NumI} {w : World} (v : View ⟨cur, [], [], r3, o, pts⟩ (s, w)) : s.stacks 0 = [] ∧ w.stdin = [] := by
  obtain ⟨l0, (g1 : s.stacks 0 = l0.map charNum), (g2 : l0 ++ w.stdin.flatten = []), (g3 : ∀ l ∈ w.stdin, l ≠ [])⟩ := v.rep
  obtain ⟨hl0, hfl⟩ := List.append_eq_nil_iff.mp g2
  subst hl0
  refine ⟨g1, ?_⟩
  cases hw : w.stdin with
  | nil => rfl
  | cons l ls =>
    rw [hw] at hfl g3
    exact absurd (List.append_eq_nil_iff.mp hfl).1 (g3 l (by simp))

theorem Pop.eof : Pop ⟨cur, [], [], r3, o, pts⟩ 0 HyN.nan ⟨cur, [], [], r3, o, pts⟩ :=
  fun (_, _) v => ⟨_, pop0_eof v.eof.1 v.eof.2, v⟩

/-- what a read from stack 0 yields when the program has put nothing on it: the next character, NaN at the end -/
def nextNum : List Char → NumI
  | [] => HyN.nan
  | c :: _ => charNum c

theorem Pop.input : Pop ⟨cur, [], rem, r3, o, pts⟩ 0 (nextNum rem) ⟨cur, [], rem.tail, r3, o, pts⟩ := by
  cases rem with
  | nil => exact Pop.eof
  | cons c rest => exact Pop.char

theorem PopN.nil {a : Scene} {i : Nat} : PopN a i [] a := fun m v => ⟨m, rfl, v⟩

theorem PopN.cons {a a1 a2 : Scene} {i : Nat} {x : NumI} {xs : List NumI} (h1 : Pop a i x a1) (h2 : PopN a1 i xs a2) :
    PopN a i (x :: xs) a2 := by
  intro m v
  obtain ⟨m1, e1, v1⟩ := h1 m v
  obtain ⟨m2, e2, v2⟩ := h2 m1 v1
  exact ⟨m2, popN_cons e1 e2, v2⟩

theorem Push.st3 {x : NumI} (h : r3 ≠ [] ∨ NumOps.isNan x = false) :
    Push ⟨cur, pr, rem, r3, o, pts⟩ 3 x ⟨cur, pr, rem, x :: r3, o, pts⟩ := by
  intro (s, w) v
  have h3 : s.stacks 3 = r3 := v.st3
  refine ⟨_, pushWrap_plain (by decide) x, ?_⟩
  rw [pushRaw_push _ _ _ (h3 ▸ h), h3]
  exact v.frame (setStack_ne (by decide)) (setStack_same ..) v.cur v.pts

theorem Push.onto {x y : NumI} : Push ⟨cur, pr, rem, y :: r3, o, pts⟩ 3 x ⟨cur, pr, rem, x :: y :: r3, o, pts⟩ :=
  Push.st3 (.inl (List.cons_ne_nil _ _))

theorem Push.st0 {x : NumI} (h : NumOps.isNan x = false) :
    Push ⟨cur, pr, rem, r3, o, pts⟩ 0 x ⟨cur, x :: pr, rem, r3, o, pts⟩ := by
  intro (s, w) v
  obtain ⟨l0, g1, g2⟩ := v.rep
  refine ⟨_, pushWrap_plain (by decide) x, ?_⟩
  rw [pushRaw_push _ _ _ (Or.inr h)]
  exact v.feed ⟨l0, (setStack_same ..).trans (congrArg (x :: ·) g1), g2⟩

/-- NaN never becomes the bottom of a stack (`pushRaw`): putting back the NaN read at the end of the input does nothing -/
theorem Push.eof : Push ⟨cur, [], [], r3, o, pts⟩ 0 HyN.nan ⟨cur, [], [], r3, o, pts⟩ := by
  intro (s, w) v
  refine ⟨(s, w), ?_, v⟩
  rw [pushWrap_plain (by decide)]
  simp [pushRaw, v.eof.1, show NumOps.isNan (HyN.nan : NumI) = true from rfl]

theorem Push.unread {c : Char} : Push ⟨cur, [], rem, r3, o, pts⟩ 0 (charNum c) ⟨cur, [], c :: rem, r3, o, pts⟩ := by
  intro m v
  obtain ⟨m', e, v'⟩ := Push.st0 (charNum_isNan c) m v
  obtain ⟨l0, g1, g2, g3⟩ := v'.rep
  exact ⟨m', e, v'.cur, ⟨c :: l0, g1, congrArg (c :: ·) g2, g3⟩, v'.st3, v'.out, v'.err, v'.pts⟩

theorem Push.back : Push ⟨cur, [], rem.tail, r3, o, pts⟩ 0 (nextNum rem) ⟨cur, [], rem, r3, o, pts⟩ := by
  cases rem with
  | nil => exact Push.eof
  | cons c rest => exact Push.unread

theorem Push.dump {a : Scene} {i : Nat} {x : NumI} (hi : 3 < i) : Push a i x a := by
  intro ⟨s, w⟩ v
  refine ⟨_, pushWrap_plain (by omega) x, ?_⟩
  unfold pushRaw
  split
  · exact v
  · exact v.frame (setStack_ne (by omega)) ((setStack_ne (by omega)).trans v.st3) v.cur v.pts

theorem Push.out {x : NumI} {cs : List Char} (h : NumOps.render x = .text cs) :
    Push ⟨cur, pr, rem, r3, o, pts⟩ 1 x ⟨cur, pr, rem, r3, o ++ cs, pts⟩ := by
  intro ⟨s, w⟩ v
  refine ⟨_, pushWrap_out h, v.cur, v.rep, v.st3, ?_, v.err, v.pts⟩
  rw [show w.out = o from v.out]

end

theorem Exec.push {a a' : Scene} {c : Cmd} {y : NumI} (hk : c.kind = 0)
    (hy : NumOps.mul (NumOps.ofNat c.hangul) (NumOps.ofNat c.dots) = y) (h : Push a a.cur y a') : Exec a c a' := by
  intro m v
  rw [exec_push hk, v.cur, hy]
  exact h m v

theorem Exec.add {a a1 a' : Scene} {c : Cmd} {xs : List NumI} {y : NumI} (hk : c.kind = 1) (hh : c.hangul = xs.length)
    (hpop : PopN a a.cur xs a1) (hy : xs.foldl HyN.add HyN.zero = y) (hpush : Push a1 c.dots y a') : Exec a c a' := by
  intro m v
  obtain ⟨m1, e1, v1⟩ := hpop m v
  rw [exec_add hk (by rw [v.cur, hh]; exact e1)]
  exact hy ▸ hpush m1 v1

theorem Exec.mul {a a1 a' : Scene} {c : Cmd} {xs : List NumI} {y : NumI} (hk : c.kind = 2) (hh : c.hangul = xs.length)
    (hpop : PopN a a.cur xs a1) (hy : xs.foldl HyN.mul HyN.one = y) (hpush : Push a1 c.dots y a') : Exec a c a' := by
  intro m v
  obtain ⟨m1, e1, v1⟩ := hpop m v
  rw [exec_mul hk (by rw [v.cur, hh]; exact e1)]
  exact hy ▸ hpush m1 v1

theorem Exec.sel {a a1 a2 a3 : Scene} {c : Cmd} {x : NumI} (hk : c.kind = 5) (hh : c.hangul = 1)
    (hpop : Pop a a.cur x a1) (hto : Push a1 c.dots x a2) (hback : Push a2 a.cur x a3) : Exec a c { a3 with cur := c.dots } := by
  intro m v
  obtain ⟨m1, e1, v1⟩ := hpop m v
  obtain ⟨m2, e2, v2⟩ := hto m1 v1
  obtain ⟨m3, e3, v3⟩ := hback m2 v2
  rw [← v.cur] at e1 e3
  exact ⟨_, exec_sel hk hh e1 e2 e3, rfl, v3.rep, v3.st3, v3.out, v3.err, v3.pts⟩

/-- some number of successful steps of `p` lead from `c` to `c'` -/
def Reach (p : List Cmd) (c c' : Cfg NumI) : Prop := ∃ n, iterOk p n c = some c'

theorem Reach.refl (p : List Cmd) (c : Cfg NumI) : Reach p c c := ⟨0, rfl⟩

/-- `n` steps of `p` from `c0` lead to location `loc`, in a machine state seen as `a` -/
def At (p : List Cmd) (c0 : Cfg NumI) (n loc : Nat) (a : Scene) : Prop := ∃ m, iterOk p n c0 = some ⟨m, loc⟩ ∧ View a m

theorem At.start (p : List Cmd) (input : List Char) : At p (initCfg input) 0 0 ⟨3, [], input, [], [], []⟩ :=
  ⟨_, rfl, rfl, ⟨[], rfl, (splitLines_flatten input).1, (splitLines_flatten input).2⟩, rfl, rfl, rfl, rfl⟩

theorem At.cast {p : List Cmd} {c0 : Cfg NumI} {n n' loc loc' : Nat} {a : Scene} (h : At p c0 n loc a) (hn : n = n') (hl : loc = loc') :
    At p c0 n' loc' a := hn ▸ hl ▸ h

/-- the general rule: any step that every machine seen as `a` takes -/
theorem At.next {p : List Cmd} {c0 : Cfg NumI} {n loc loc' : Nat} {a a' : Scene} (h : At p c0 n loc a)
    (hs : ∀ m, View a m → ∃ m', step p ⟨m, loc⟩ = .ok ⟨m', loc'⟩ ∧ View a' m') (hl : loc < p.length) : At p c0 (n + 1) loc' a' := by
  obtain ⟨m, e, v⟩ := h
  obtain ⟨m', e', v'⟩ := hs m v
  exact ⟨m', iterOk_snoc e hl e', v'⟩

/-- `At.next` for a command without an area: `Exec`, and on to the next location -/
theorem At.step {p : List Cmd} {c0 : Cfg NumI} {n loc : Nat} {c : Cmd} {a a' : Scene} (h : At p c0 n loc a) (hp : p[loc]? = some c)
    (hn : c.area = .nil) (he : Exec a c a') : At p c0 (n + 1) (loc + 1) a' :=
  h.next (fun m v => let ⟨m', e, v'⟩ := he m v; ⟨m', step_nil hp hn e, v'⟩) (List.getElem?_eq_some_iff.mp hp).1

theorem At.ended {p : List Cmd} {c0 : Cfg NumI} {n : Nat} {a : Scene} (h : At p c0 n p.length a) :
    (runN p n c0).2 = .ended ∧ (runN p n c0).1.m.2.out = a.out ∧ (runN p n c0).1.m.2.err = [] := by
  obtain ⟨m, e, v⟩ := h
  rw [runN_of_iterOk e, if_neg (Nat.lt_irrefl _)]
  exact ⟨rfl, v.out, v.err⟩

/-- `p` halts normally on `input` having written `out` to standard output and nothing to standard error -/
def Copies (p : List Cmd) (input out : List Char) : Prop :=
  ∃ n, (runN p n (initCfg input)).2 = .ended ∧ (runN p n (initCfg input)).1.m.2.out = out ∧
    (runN p n (initCfg input)).1.m.2.err = []

theorem At.copies {p : List Cmd} {input : List Char} {n : Nat} {a : Scene} (h : At p (initCfg input) n p.length a) :
    Copies p input a.out := ⟨n, h.ended⟩

end HyE
