import Hyeong.Model.Cli
import Hyeong.Model.ExecNum
import Hyeong.Lemmas.IncAll
import Hyeong.Lemmas.OptQuiet
import Hyeong.Lemmas.ParseProof
import Hyeong.Props.C02
/-!
# what `hyeong run` ends with: its status, and end to end the interpreter's run of the parsed program
-/
namespace HyE
open HyN

section status
variable {N : Type} [NumOps N]

/-- C13 core: the status is 0, what the program requested (0 or 1), or 1 after a diagnostic -/
theorem finishRun_status (pre : List Char) (fuel : Nat) (code0 : List Cmd) (m : M N) (cs : List Cmd) (o : CliOut)
    (h : finishRun pre (executeAll fuel code0 m cs) = some o) : o.status ≤ 1 ∧ (o.diag = true → o.status = 1) := by
  have hs := executeAll_ends fuel cs code0 m
  generalize executeAll fuel code0 m cs = out at h hs
  match out, hs, h with
  | some (.ok _), _, h => cases h; exact ⟨Nat.zero_le 1, nofun⟩
  -- the only exits a step can ask for are 0 and 1: the status is that code, without a diagnostic
  | some (.error (_, _)), .pop .exit0, h => cases h; exact ⟨Nat.zero_le 1, nofun⟩
  | some (.error (_, _)), .pop .exit1, h => cases h; exact ⟨Nat.le_refl 1, nofun⟩
  -- every other stop is reported: diagnostic and status 1
  | some (.error (_, _)), .pop .input, h | some (.error (_, _)), .push (.enc _), h | some (.error (_, _)), .push (.unspec _), h =>
    cases h; exact ⟨Nat.le_refl 1, fun _ => rfl⟩

theorem cliRunLines_status (budget fuel level : Nat) (path : List Char) (extOk : Bool) (src : Option (List Char)) (lines : List (List Char))
    (o : CliOut) (h : cliRunLines (N := N) budget fuel level path extOk src lines = some o) :
    o.status ≤ 1 ∧ (o.diag = true → o.status = 1) := by
  have bad : ∀ l : List Char, some (⟨l, [], true, 1⟩ : CliOut) = some o → o.status ≤ 1 ∧ (o.diag = true → o.status = 1) :=
    fun _ h => by cases h; exact ⟨Nat.le_refl 1, fun _ => rfl⟩
  unfold cliRunLines at h
  cases extOk with
  | false => exact bad _ h
  | true =>
    cases src with
    | none => exact bad _ h
    | some s =>
      simp only [Bool.not_true, Bool.false_eq_true, ↓reduceIte] at h
      by_cases hl : level = 0
      · rw [if_pos hl] at h
        exact finishRun_status _ _ _ _ _ o h
      · rw [if_neg hl] at h
        cases ho : optimize (N := N) budget level ((HyP.parse s).map Cmd.ofParsed) ⟨lines, [], []⟩ with
        | error e => rw [ho] at h; exact bad _ h
        | ok r => rw [ho] at h; exact finishRun_status _ _ _ _ _ o h

end status

/-- what the tool has printed / returned when a run of the program stands as `x` (after the log lines `pre`) -/
def runOutcome (pre : List Char) (x : Cfg NumI × Status) : Option CliOut :=
  match x.2 with
  | .running => none
  | .ended => some ⟨pre ++ x.1.m.2.out, x.1.m.2.err, false, 0⟩
  | .stopped (.exit c) => some ⟨pre ++ x.1.m.2.out, x.1.m.2.err, false, c⟩
  | .stopped _ => some ⟨pre ++ x.1.m.2.out, x.1.m.2.err, true, 1⟩

theorem finishRun_eq_runOutcome (log : List Char) (r : Res (List Cmd × M NumI)) (x : Cfg NumI × Status)
    (h : match r with
      | .ok (_, m) => x.1.m.2 = m.2 ∧ x.2 = .ended
      | .error (e, w) => x.1.m.2 = w ∧ x.2 = .stopped e) :
    finishRun log (some r) = runOutcome log x := by
  unfold runOutcome
  cases r with
  | ok cm => rw [h.1, h.2]; rfl
  | error ew =>
    obtain ⟨e, w⟩ := ew
    rw [h.1, h.2]
    cases e <;> rfl

/-- Incremental execution from `⟨m, pre.length⟩`, when it ends, is a run of `pre ++ cs` with the outcome `finishRun` reports;
`hobs`: as far as can be seen, that run is the run of `p` from `c0` shifted by `j` steps. -/
theorem finishRun_is_run {log : List Char} {fuel : Nat} {pre cs : List Cmd} {m : M NumI} {o : CliOut}
    (h : finishRun log (executeAll fuel pre m cs) = some o) (hinv : InvK pre.length m.1)
    {p : List Cmd} {c0 : Cfg NumI} {j : Nat}
    (hobs : ∀ n, obs (runN (pre ++ cs) n ⟨m, pre.length⟩) = obs (runN p (j + n) c0)) :
    ∃ n, runOutcome log (runN p n c0) = some o := by
  suffices ∃ n, runOutcome log (runN (pre ++ cs) n ⟨m, pre.length⟩) = some o by
    obtain ⟨n, hn⟩ := this
    have := hobs n
    simp only [obs, Prod.mk.injEq] at this
    refine ⟨j + n, ?_⟩
    unfold runOutcome at hn ⊢
    rw [← this.1, ← this.2.2]
    exact hn
  cases hx : executeAll fuel pre m cs with
  | none => rw [hx] at h; cases h
  | some r =>
    rw [hx] at h
    have hr := executeAll_trace cs List.prefix_rfl hinv hx
    cases r with
    | ok cm =>
      obtain ⟨_, i, hi⟩ := hr
      refine ⟨i, (finishRun_eq_runOutcome log _ _ ?_).symm.trans h⟩
      rw [runN_of_iterOk hi]
      exact ⟨rfl, if_neg (Nat.lt_irrefl _)⟩
    | error ew =>
      obtain ⟨i, c1, hi⟩ := StopsWith.runN hr
      refine ⟨i + 1, (finishRun_eq_runOutcome log _ _ ?_).symm.trans h⟩
      rw [hi _ (Nat.lt_succ_self i)]
      exact ⟨rfl, rfl⟩

/-- **`hyeong run FILE` end to end** (model of main.rs/run.rs/ext.rs over the models of the parser, the optimiser
and the interpreter): whenever the tool ends on a readable `.hyeong` file, at any level, then after its log
lines it has printed exactly the standard output and standard error of the interpreter's (level-0,
preloaded) run of the parsed program on the given input, up to the point where that run ends normally
(status 0), exits (status = the requested 0/1) or stops on unencodable output (diagnostic, status 1).
The only other case: optimisation itself met unencodable output — then only the diagnostic is shown
(status 1), and the unoptimised run stops on that same error. -/
theorem run_end_to_end (budget fuel level : Nat) (path src stdin : List Char) (o : CliOut)
    (h : cliRun (N := NumI) budget fuel level path true (some src) stdin = some o) :
    let code := (HyP.parse src).map Cmd.ofParsed
    let log0 := logLine ("parsing ".toList ++ path)
    let log := (if level = 0 then log0 else log0 ++ logLine ("optimizing to level ".toList ++ natStr level)) ++ logLine "running code".toList
    (∃ n, runOutcome log (runN code n (initCfg stdin)) = some o) ∨
    (level ≠ 0 ∧ o = ⟨log0 ++ logLine ("optimizing to level ".toList ++ natStr level), [], true, 1⟩ ∧
      ∃ n e, (runN code n (initCfg stdin)).2 = .stopped e ∧ ∀ c, e ≠ .exit c) := by
  intro code log0 log
  have hcode : ∀ c ∈ code, c.kind ≤ 5 ∧ 1 ≤ c.hangul := List.forall_mem_map.mpr fun pc hpc =>
    ⟨Nat.le_of_lt_succ (HyP.parse_kinds src pc hpc).1, (HyP.parse_kinds src pc hpc).2⟩
  unfold cliRun cliRunLines at h
  simp only [Bool.not_true, Bool.false_eq_true, ↓reduceIte] at h
  by_cases hl : level = 0
  · rw [if_pos hl] at h
    simp only [log, if_pos hl]
    exact .inl (finishRun_is_run h (InvK.init 0) (j := 0) fun n => by rw [Nat.zero_add]; rfl)
  · rw [if_neg hl] at h
    simp only [log, if_neg hl]
    cases ho : HyE.optimize (N := NumI) budget level code ⟨splitLines stdin, [], []⟩ with
    | error e =>
      rw [ho] at h
      cases h
      obtain ⟨j, hj⟩ := C02.opt_enc_error budget level code (fun c hc => (hcode c hc).1) stdin e ho
      have hp := optimize_quiet (N := NumI) budget level code (fun c hc => (hcode c hc).2) ⟨splitLines stdin, [], []⟩
      rw [ho] at hp
      exact .inr ⟨hl, rfl, j, e, hj, hp⟩
    | ok res =>
      -- levels 1 and 2 run the residual code from what `optimize` returned, which is `j` steps into the run of `code`
      obtain ⟨oc, size, r⟩ := res
      rw [ho] at h
      obtain ⟨_, _, hinv, hle⟩ := optimize_prefix ho
      obtain ⟨j, hj⟩ := C02.opt_equiv budget level code (fun c hc => (hcode c hc).1) stdin oc size r ho
      have hlen : (oc.take r.idx).length = r.idx := List.length_take_of_le hle
      refine .inl (finishRun_is_run h (by rw [hlen]; exact hinv) (j := j) ?_)
      rw [List.take_append_drop, hlen]
      exact hj

end HyE
