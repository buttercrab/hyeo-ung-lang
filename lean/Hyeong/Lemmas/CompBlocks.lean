import Hyeong.Model.CompileIR
/-!
# the block builder of `build_source` produces a `Blocking`
-/
namespace HyC
open HyE

instance AreaOk.decidable : ∀ a, Decidable (AreaOk a)
  | .nil => .isTrue trivial
  | .val t l r =>
    have := AreaOk.decidable l
    have := AreaOk.decidable r
    inferInstanceAs (Decidable (t ≤ 13 ∧ AreaOk l ∧ AreaOk r))

theorem off_zero (bs : List (List Cmd)) : off bs 0 = 0 := rfl

theorem off_succ (bs : List (List Cmd)) (k : Nat) (h : k < bs.length) : off bs (k + 1) = off bs k + bs[k].length := by
  rw [off, List.take_succ_eq_append_getElem h, List.flatten_append, List.length_append, List.flatten_singleton, off]

theorem off_length (bs : List (List Cmd)) : off bs bs.length = bs.flatten.length := by rw [off, List.take_length]

theorem off_append_le (bs ex : List (List Cmd)) (k : Nat) (h : k ≤ bs.length) : off (bs ++ ex) k = off bs k := by
  rw [off, off, List.take_append_of_le_length h]

theorem flatten_take_drop (bs : List (List Cmd)) (k : Nat) : (bs.take k).flatten ++ (bs.drop k).flatten = bs.flatten := by
  rw [← List.flatten_append, List.take_append_drop]

theorem flatten_drop_off (bs : List (List Cmd)) (k : Nat) : bs.flatten.drop (off bs k) = (bs.drop k).flatten := by
  have := List.drop_left' (l₂ := (bs.drop k).flatten) (rfl : (bs.take k).flatten.length = off bs k)
  rwa [flatten_take_drop] at this

theorem drop_off (bs : List (List Cmd)) (k : Nat) (h : k < bs.length) :
    bs.flatten.drop (off bs k) = bs[k] ++ bs.flatten.drop (off bs (k + 1)) := by
  rw [flatten_drop_off, flatten_drop_off, List.drop_eq_getElem_cons h, List.flatten_cons]

theorem off_strict (bs : List (List Cmd)) (hne : ∀ b ∈ bs, b ≠ []) {k k' : Nat} (h : k < k') (h' : k' ≤ bs.length) :
    off bs k < off bs k' := by
  induction k' with
  | zero => omega
  | succ n ih =>
    have hn := off_succ bs n h'
    have hpos := List.length_pos_iff.mpr (hne bs[n] (List.getElem_mem _))
    rcases Nat.lt_succ_iff_lt_or_eq.mp h with h | rfl
    · have := ih h (Nat.le_of_lt h')
      omega
    · omega

theorem off_inj (bs : List (List Cmd)) (hne : ∀ b ∈ bs, b ≠ []) {k k' : Nat} (hk : k ≤ bs.length) (hk' : k' ≤ bs.length)
    (h : off bs k = off bs k') : k = k' := by
  rcases Nat.lt_trichotomy k k' with h1 | h1 | h1
  · have := off_strict bs hne h1 hk'; omega
  · exact h1
  · have := off_strict bs hne h1 hk; omega

theorem off_le_length (bs : List (List Cmd)) (k : Nat) : off bs k ≤ bs.flatten.length := by
  rw [← flatten_take_drop bs k, List.length_append]
  exact Nat.le_add_right _ _

theorem getD_append_left {α : Type} (l l' : List α) {n : Nat} (d : α) (h : n < l.length) : (l ++ l').getD n d = l.getD n d := by
  rw [List.getD_eq_getElem?_getD, List.getElem?_append_left h, ← List.getD_eq_getElem?_getD]

/-- the builder `b` after the commands `pre`: finished blocks and the block under construction spell `pre`, a command with
an area is alone in its block, and the table `bo` sends the index of each such command to its block -/
structure BInv (b : BB) (pre : List Cmd) (bo : List Nat) : Prop where
  flat : b.done.flatten ++ b.cur = pre
  nonempty : ∀ x ∈ b.done, x ≠ []
  alone : ∀ x ∈ b.done, ∀ c ∈ x, c.area ≠ .nil → x = [c]
  curNil : ∀ c ∈ b.cur, c.area = .nil
  len : bo.length = pre.length
  tbl : ∀ v (h : v < pre.length), pre[v].area ≠ .nil → bo.getD v 0 < b.done.length ∧ off b.done (bo.getD v 0) = v

theorem BInv.init : BInv ⟨[], []⟩ [] [] := ⟨rfl, nofun, nofun, nofun, rfl, nofun⟩

theorem BInv.tbl_prefix {b : BB} {pre : List Cmd} {bo : List Nat} (h : BInv b pre bo) {done : List (List Cmd)}
    (hd : b.done <+: done) (v : Nat) (hv : v < pre.length) (ha : pre[v].area ≠ .nil) :
    bo.getD v 0 < done.length ∧ off done (bo.getD v 0) = v := by
  obtain ⟨ex, rfl⟩ := hd
  have := h.tbl v hv ha
  rw [off_append_le _ _ _ (Nat.le_of_lt this.1), List.length_append]
  exact ⟨Nat.lt_add_right _ this.1, this.2⟩

/-- `x`: the table entry for the new command `c` (the block number `add` returns); it matters only if `c` has an area -/
theorem BInv.tbl_snoc {b : BB} {pre : List Cmd} {bo : List Nat} (h : BInv b pre bo) {done : List (List Cmd)}
    (hd : b.done <+: done) (x : Nat) (c : Cmd) (hx : c.area ≠ .nil → x < done.length ∧ off done x = pre.length)
    (v : Nat) (hv : v < (pre ++ [c]).length) (ha : (pre ++ [c])[v].area ≠ .nil) :
    (bo ++ [x]).getD v 0 < done.length ∧ off done ((bo ++ [x]).getD v 0) = v := by
  by_cases hlt : v < pre.length
  · rw [List.getElem_append_left hlt] at ha
    rw [getD_append_left _ _ _ (h.len ▸ hlt)]
    exact h.tbl_prefix hd v hlt ha
  · have hv' : v = pre.length := by rw [List.length_append, List.length_singleton] at hv; omega
    subst hv'
    rw [List.getElem_concat_length rfl] at ha
    rw [List.getD_eq_getElem?_getD, ← h.len, List.getElem?_concat_length, h.len]
    exact hx ha

theorem BInv.fresh {b : BB} {pre : List Cmd} {bo : List Nat} (h : BInv b pre bo) :
    BInv b.fresh pre bo ∧ b.fresh.cur = [] ∧ off b.fresh.done b.fresh.done.length = pre.length := by
  unfold BB.fresh
  split
  · rename_i hc
    exact ⟨h, hc, by rw [off_length, ← h.flat, hc, List.append_nil]⟩
  · rename_i hc
    exact ⟨⟨by rw [← h.flat, List.flatten_append, List.flatten_singleton, List.append_nil],
      List.forall_mem_append.mpr ⟨h.nonempty, List.forall_mem_singleton.mpr hc⟩,
      List.forall_mem_append.mpr ⟨h.alone, List.forall_mem_singleton.mpr fun d hd ha => absurd (h.curNil d hd) ha⟩,
      nofun, h.len, h.tbl_prefix (List.prefix_append _ _)⟩, rfl,
      by rw [off_length, ← h.flat, List.flatten_append, List.flatten_singleton]⟩

theorem BB.add_val (b : BB) (c : Cmd) (h : c.area ≠ .nil) :
    b.add c = (⟨b.fresh.done ++ [[c]], []⟩, b.fresh.done.length) := by
  unfold BB.add BB.fresh
  cases hca : c.area with
  | nil => exact absurd hca h
  | val t l r => dsimp only; split <;> simp

theorem BInv.add {b : BB} {pre : List Cmd} {bo : List Nat} (h : BInv b pre bo) (c : Cmd) :
    BInv (b.add c).1 (pre ++ [c]) (bo ++ [(b.add c).2]) := by
  by_cases hca : c.area = .nil
  · have e : b.add c = (⟨b.done, b.cur ++ [c]⟩, b.done.length) := by unfold BB.add; rw [hca]
    rw [e]
    exact ⟨by rw [← h.flat, List.append_assoc], h.nonempty, h.alone,
      List.forall_mem_append.mpr ⟨h.curNil, List.forall_mem_singleton.mpr hca⟩,
      by rw [List.length_append, List.length_append, h.len]; rfl,
      h.tbl_snoc List.prefix_rfl _ c fun ha => absurd hca ha⟩
  · obtain ⟨h, hc, hoff⟩ := h.fresh
    rw [BB.add_val b c hca]
    exact ⟨by rw [← h.flat, hc, List.flatten_append, List.flatten_singleton, List.append_nil, List.append_nil],
      List.forall_mem_append.mpr ⟨h.nonempty, List.forall_mem_singleton.mpr (List.cons_ne_nil _ _)⟩,
      List.forall_mem_append.mpr ⟨h.alone, List.forall_mem_singleton.mpr fun d hd _ => by rw [List.mem_singleton.mp hd]⟩,
      nofun, by rw [List.length_append, List.length_append, h.len]; rfl,
      h.tbl_snoc (List.prefix_append _ _) _ c fun _ => ⟨by rw [List.length_append]; exact Nat.lt_succ_self _,
        by rw [off_append_le _ _ _ (Nat.le_refl _), hoff]⟩⟩

theorem BInv.addAll : ∀ (cs : List Cmd) {b : BB} {pre : List Cmd} {bo : List Nat}, BInv b pre bo →
    BInv (b.addAll cs).1 (pre ++ cs) (bo ++ (b.addAll cs).2) := by
  intro cs
  induction cs with
  | nil => intro b pre bo h; simpa [BB.addAll] using h
  | cons c cs ih =>
    intro b pre bo h
    have := ih (h.add c)
    simpa [BB.addAll] using this

theorem BB.finish_eq (b : BB) : b.finish = b.fresh.done := by
  unfold BB.finish BB.fresh; split <;> rfl

theorem BInv.finish {b : BB} {pre : List Cmd} {bo : List Nat} (h : BInv b pre bo) : Blocking pre b.finish bo := by
  obtain ⟨h, hc, _⟩ := h.fresh
  rw [BB.finish_eq]
  exact ⟨by simpa [hc] using h.flat, h.nonempty, h.alone, h.len, h.tbl⟩

/-! ### finished blocks only grow at the end -/

theorem add_done (b : BB) (c : Cmd) : b.done <+: (b.add c).1.done := by
  unfold BB.add
  split
  · exact List.prefix_rfl
  · split <;> exact List.prefix_append _ _

theorem addAll_done : ∀ (cs : List Cmd) (b : BB), b.done <+: (b.addAll cs).1.done
  | [], _ => List.prefix_rfl
  | c :: cs, b => (add_done b c).trans (addAll_done cs (b.add c).1)

theorem finish_done (b : BB) : b.done <+: b.finish := by
  unfold BB.finish
  split
  · exact List.prefix_rfl
  · exact List.prefix_append _ _

end HyC
