import Hyeong.Model.Parse
import Hyeong.Lemmas.Tables
/-! `parse = specParse` (C04) in three parts: (1) the area machine (`AM`, `feed`, `fin`) computes `areaOf`;
(2) `stepCore`, run over positioned characters (`goP`), is followed step by step against the grammar `cmds`;
(3) indices, line/column bookkeeping and pre-pass: `parse` runs `goP` on `positioned s`. -/
namespace HyP

/-! ### 1. the area machine computes `areaOf` -/

theorem bangTree_eq (bs : List (Option Nat)) (c : Option Nat) : bangTree bs c = bangList (bs ++ [c]) := by
  induction bs with
  | nil => rfl
  | cons b bs ih =>
    show Area.val 1 (leaf b) (bangTree bs c) = _
    rw [ih]
    cases bs <;> rfl

theorem quTree_append (qs : List Area) (a last : Area) : quTree (qs ++ [a]) last = quTree qs (.val 0 a last) := by
  simp [quTree]

theorem orElse_none (c : Option Nat) : orElse c none = c := by cases c <;> rfl
theorem none_orElse (c : Option Nat) : orElse none c = c := by cases c <;> rfl
theorem orElse_assoc (a b c : Option Nat) : orElse (orElse a b) c = orElse a (orElse b c) := by
  cases a <;> cases b <;> cases c <;> rfl

/-- `(qs, bs, cur)` of `Core`: the finished `!`-trees of the `?`-spine, the finished slots of the open
`!`-group, the open slot -/
abbrev AM := List Area × List (Option Nat) × Option Nat
/-- what `stepCore` does to them at `?`, `!`, a heart -/
def feed : AM → Tok → AM
  | (qs, bs, cur), .qu => (qs ++ [bangTree bs cur], [], none)
  | (qs, bs, cur), .bang => (qs, bs ++ [cur], none)
  | (qs, bs, cur), .heart t => (qs, bs, orElse cur (some t))
/-- the area they denote (`Core.flush`) -/
def fin : AM → Area
  | (qs, bs, cur) => quTree qs (bangTree bs cur)

/-- `areaOf` read from the middle of a `!`-group: `bs` are its finished slots, `cur` the open one -/
def areaFrom (bs : List (Option Nat)) (cur : Option Nat) (ts : List Tok) : Area :=
  let r := groups ts
  let s := slots r.1
  quList (bangList (bs ++ orElse cur s.1 :: s.2) :: r.2.map bangOf)

theorem areaFrom_nil (ts : List Tok) : areaFrom [] none ts = areaOf ts := by
  simp [areaFrom, areaOf, bangOf, none_orElse]

theorem slots_noqu_cons (t : Tok) (g : List Tok) (h : t ≠ .qu) :
    slots (t :: g) = match t with
      | .bang => (none, (slots g).1 :: (slots g).2)
      | .heart x => (orElse (some x) (slots g).1, (slots g).2)
      | .qu => slots g := by
  cases t <;> simp [slots]

/-! `areaFrom` by recursion on the tokens -/

theorem areaFrom_end (bs : List (Option Nat)) (cur : Option Nat) : areaFrom bs cur [] = bangTree bs cur := by
  simp [areaFrom, groups, slots, quList, orElse_none, bangTree_eq]

theorem areaFrom_qu (bs : List (Option Nat)) (cur : Option Nat) (ts : List Tok) :
    areaFrom bs cur (.qu :: ts) = .val 0 (bangTree bs cur) (areaFrom [] none ts) := by
  simp [areaFrom, groups, slots, quList, orElse_none, none_orElse, bangTree_eq, bangOf]

theorem areaFrom_bang (bs : List (Option Nat)) (cur : Option Nat) (ts : List Tok) :
    areaFrom bs cur (.bang :: ts) = areaFrom (bs ++ [cur]) none ts := by
  simp [areaFrom, groups, slots, orElse_none, none_orElse]

theorem areaFrom_heart (bs : List (Option Nat)) (cur : Option Nat) (h : Nat) (ts : List Tok) :
    areaFrom bs cur (.heart h :: ts) = areaFrom bs (orElse cur (some h)) ts := by
  simp [areaFrom, groups, slots, orElse_assoc]

theorem feed_fin (ts : List Tok) : ∀ (qs : List Area) (bs : List (Option Nat)) (cur : Option Nat),
    fin (ts.foldl feed (qs, bs, cur)) = quTree qs (areaFrom bs cur ts) := by
  induction ts with
  | nil => intro qs bs cur; rw [areaFrom_end]; rfl
  | cons t ts ih =>
    intro qs bs cur
    rw [List.foldl_cons]
    cases t with
    | qu => rw [feed, ih, quTree_append, areaFrom_qu]
    | bang => rw [feed, ih, areaFrom_bang]
    | heart h => rw [feed, ih, areaFrom_heart]

theorem machine_areaOf (ts : List Tok) : fin (ts.foldl feed ([], [], none)) = areaOf ts := by
  rw [feed_fin, areaFrom_nil]
  rfl

/-! ### 2. the state machine over positioned characters -/

/-- the grammar's look-ahead: a start syllable needs an end syllable of its class in `rest` -/
def okOf (q : PC) (rest : List PC) : Bool :=
  match startIdx q.c with
  | some k => laterEnd k rest
  | none => true

/-- `stepCore` over positioned characters, `okOf` in place of the pre-pass -/
def goP : Core → List PC → Core
  | p, [] => p
  | p, q :: rest => goP (stepCore p q.c (q.line, q.col) (okOf q rest)) rest

def noArea (u : List PC) : Bool := u.all (fun q => !isAreaCh q.c)
def preDots (u : List PC) : List PC := (u.takeWhile (fun q => !isAreaCh q.c)).filter (fun q => (dotW q.c).isSome)
def dotsOf (u : List PC) : Nat := ((preDots u).map (fun q => (dotW q.c).getD 0)).sum
def areaChs (u : List PC) : List Char := (u.filter (fun q => isAreaCh q.c)).map (·.c)
def toksOf (u : List PC) : List Tok := u.filterMap (fun q => tokOf q.c)

theorem mkCmd_eq (kind hangul : Nat) (hr : List Char) (p : PC) (u : List PC) :
    mkCmd kind hangul hr p u =
      ⟨kind, hangul, dotsOf u, (p.line, p.col), areaOf (toksOf u), hr ++ (preDots u).map (·.c) ++ areaChs u⟩ := rfl

theorem takeWhile_append_all {α : Type} (p : α → Bool) (u l : List α) :
    (u ++ l).takeWhile p = u.takeWhile p ++ if u.all p then l.takeWhile p else [] := by
  induction u with
  | nil => simp
  | cons a u ih => cases h : p a <;> simp [h, ih]

theorem preDots_snoc (u : List PC) (q : PC) :
    preDots (u ++ [q]) =
      preDots u ++ if noArea u = true ∧ isAreaCh q.c = false ∧ (dotW q.c).isSome = true then [q] else [] := by
  rw [preDots, takeWhile_append_all, List.filter_append, ← preDots, ← noArea]
  congr 1
  cases noArea u
  · simp
  · cases ha : isAreaCh q.c <;> simp [List.filter_cons, ha]

theorem noArea_snoc (u : List PC) (q : PC) : noArea (u ++ [q]) = (noArea u && !isAreaCh q.c) := by
  simp [noArea]

theorem toksOf_snoc (u : List PC) (q : PC) : toksOf (u ++ [q]) = toksOf u ++ (tokOf q.c).toList := by
  cases h : tokOf q.c <;> simp [toksOf, h]

theorem areaChs_snoc (u : List PC) (q : PC) : areaChs (u ++ [q]) = areaChs u ++ (if isAreaCh q.c then [q.c] else []) := by
  cases h : isAreaCh q.c <;> simp [areaChs, h]

theorem noArea_areaChs {u : List PC} (h : noArea u = true) : areaChs u = [] := by
  rw [areaChs, List.filter_eq_nil_iff.mpr fun a ha => by simpa using List.all_eq_true.mp h a ha]
  rfl

theorem dotsOf_snoc (u : List PC) (q : PC) :
    dotsOf (u ++ [q]) =
      dotsOf u + if noArea u = true ∧ isAreaCh q.c = false ∧ (dotW q.c).isSome = true then (dotW q.c).getD 0 else 0 := by
  rw [dotsOf, preDots_snoc, List.map_append, List.sum_append, ← dotsOf, apply_ite (List.map _), apply_ite List.sum]
  rfl

theorem raw_snoc (hr : List Char) (u : List PC) (q : PC) :
    hr ++ (preDots (u ++ [q])).map (·.c) ++ areaChs (u ++ [q]) =
      hr ++ (preDots u).map (·.c) ++ areaChs u ++
        if isAreaCh q.c = true ∨ noArea u = true ∧ (dotW q.c).isSome = true then [q.c] else [] := by
  rw [preDots_snoc, areaChs_snoc]
  cases isAreaCh q.c with
  | true => simp
  | false =>
    by_cases hc : noArea u = true ∧ (dotW q.c).isSome = true
    · -- a dot that counts goes behind `preDots u`, which is the end: there is no area part yet
      simp [hc, noArea_areaChs hc.1]
    · simp [hc]

/-! #### one character, by the state and the class of the character

`stepCore` is unfolded only in `stepCore_tail`, `stepCore_head` and, for state 1, `stepCore_fill`, `stepCore_close`. -/

/-- what a character that does not start a command does outside the syllable part -/
def tailStep (p : Core) (c : Char) : Core :=
  match tokOf c with
  | some t =>
    let a := feed (p.qs, p.bs, p.cur) t
    { p with qs := a.1, bs := a.2.1, cur := a.2.2, raw := p.raw ++ [c], st := 2 }
  | none =>
    if p.st = 0 ∧ (dotW c).isSome then { p with dots := p.dots + (dotW c).getD 0, raw := p.raw ++ [c] } else p

theorem stepCore_tail {p : Core} (hst : p.st ≠ 1) {q : PC} {rest : List PC} (hq : isHead q rest = false) :
    stepCore p q.c (q.line, q.col) (okOf q rest) = tailStep p q.c := by
  simp only [isHead, Bool.or_eq_false_iff, Option.isSome_eq_false_iff, Option.isNone_iff_eq_none] at hq
  obtain ⟨hc, hl⟩ := hq
  cases hs : startIdx q.c with
  | some k =>
    -- a start syllable that no end syllable follows starts no command
    have row := (start_facts hs).2
    have hl : laterEnd k rest = false := by simpa [hs] using hl
    simp [stepCore, hst, headIdx, hc, hs, okOf, hl, tailStep, row.tokOf, row.dotW]
  | none =>
    simp only [stepCore, hst, ↓reduceIte, headIdx, hc, hs, Option.map_none, tailStep]
    cases hd : dotW q.c with
    | some w => simp [(dot_facts hd).tokOf]
    | none =>
      by_cases h1 : q.c = '?'
      · simp [tokOf, h1, feed]
      · by_cases h2 : q.c = '!'
        · simp [tokOf, h2, feed]
        · cases hh : heartIdx q.c <;> simp [tokOf, h1, h2, hh, feed, orElse]

theorem stepCore_head {p : Core} (hst : p.st ≠ 1) {c : Char} {t : Nat} (ht : headIdx c = some t) (loc : Nat × Nat)
    {ok : Bool} (hok : t < 6 ∨ ok = true) :
    stepCore p c loc ok = ⟨p.flush, t, 1, 0, loc, [c], if t < 6 then 0 else 1, [], none, []⟩ := by
  have : ¬ (t ≥ 6 ∧ (!ok) = true) := by rcases hok with h | h <;> simp [h]; omega
  simp only [stepCore, hst, ↓reduceIte, ht, this]

theorem tailStep_frame (p : Core) (c : Char) :
    (tailStep p c).res = p.res ∧ (tailStep p c).ty = p.ty ∧ (p.st ≠ 1 → (tailStep p c).st ≠ 1) := by
  unfold tailStep
  split
  · simp
  · split <;> simp

/-! #### the tail of a command -/

/-- `p` has read the word of a command (`kind`, `hangul`, source text `hr`, first character `h`) and `u` of
its tail: `mkCmd kind hangul hr h u` is pending (`Rep.flush_eq`) -/
structure Rep (p : Core) (kind hangul : Nat) (hr : List Char) (h : PC) (u : List PC) : Prop where
  ty : p.ty = kind
  klt : kind < 6
  hangul : p.hangul = hangul
  loc : p.loc = (h.line, h.col)
  dots : p.dots = dotsOf u
  raw : p.raw = hr ++ (preDots u).map (·.c) ++ areaChs u
  am : (p.qs, p.bs, p.cur) = (toksOf u).foldl feed ([], [], none)
  st : p.st = if noArea u then 0 else 2

theorem Rep.st_ne_one {p : Core} {kind hangul hr h u} (r : Rep p kind hangul hr h u) : p.st ≠ 1 := by
  rw [r.st]; split <;> simp

theorem Rep.snoc {p : Core} {kind hangul hr h u} (r : Rep p kind hangul hr h u) (q : PC) :
    Rep (tailStep p q.c) kind hangul hr h (u ++ [q]) := by
  cases ht : tokOf q.c with
  | some t =>
    have ha : isAreaCh q.c = true := by simp [isAreaCh, ht]
    simp only [tailStep, ht]
    refine ⟨r.ty, r.klt, r.hangul, r.loc, ?_, ?_, ?_, ?_⟩
    · rw [dotsOf_snoc, if_neg (by simp [ha])]; exact r.dots
    · rw [raw_snoc, if_pos (.inl ha), ← r.raw]
    · simp [toksOf_snoc, ht, ← r.am]
    · simp [noArea_snoc, ha]
  | none =>
    have ha : isAreaCh q.c = false := by simp [isAreaCh, ht]
    -- `st = 0`: no area character has been seen; only then a dot counts
    have hst : p.st = 0 ↔ noArea u = true := by rw [r.st]; cases noArea u <;> simp
    have ham : (p.qs, p.bs, p.cur) = (toksOf (u ++ [q])).foldl feed ([], [], none) := by simp [toksOf_snoc, ht, r.am]
    have hst' : p.st = if noArea (u ++ [q]) then 0 else 2 := by simp [r.st, noArea_snoc, ha]
    simp only [tailStep, ht, hst]
    split
    · rename_i hc
      refine ⟨r.ty, r.klt, r.hangul, r.loc, ?_, ?_, ham, hst'⟩
      · rw [dotsOf_snoc, if_pos ⟨hc.1, ha, hc.2⟩, ← r.dots]
      · rw [raw_snoc, if_pos (.inr hc), ← r.raw]
    · rename_i hc
      refine ⟨r.ty, r.klt, r.hangul, r.loc, ?_, ?_, ham, hst'⟩
      · rw [dotsOf_snoc, if_neg fun h => hc ⟨h.1, h.2.2⟩]; exact r.dots
      · rw [raw_snoc, if_neg (not_or.mpr ⟨ne_true_of_eq_false ha, hc⟩), List.append_nil]; exact r.raw

theorem Rep.tail_step {p : Core} {kind hangul hr h u} (r : Rep p kind hangul hr h u) (q : PC) (rest : List PC)
    (hq : isHead q rest = false) :
    Rep (stepCore p q.c (q.line, q.col) (okOf q rest)) kind hangul hr h (u ++ [q]) :=
  stepCore_tail r.st_ne_one hq ▸ r.snoc q

theorem tailSpan_spec (l : List PC) :
    (tailSpan l).1 ++ (tailSpan l).2 = l ∧ ∀ q ps, (tailSpan l).2 = q :: ps → isHead q ps = true := by
  fun_induction tailSpan l with
  | case1 => simp  -- `[]`
  | case2 q ps hq => exact ⟨rfl, fun _ _ e => by cases e; exact hq⟩  -- `q` is a head
  | case3 q ps hq r ih => exact ⟨congrArg (q :: ·) ih.1, ih.2⟩  -- `q` joins the tail

theorem tailSpan_len (l : List PC) : (tailSpan l).2.length ≤ l.length := by
  have := congrArg List.length (tailSpan_spec l).1
  simp at this; omega

theorem goP_tail {p : Core} {kind hangul hr h} (l : List PC) : ∀ {u}, Rep p kind hangul hr h u →
    ∃ p', goP p l = goP p' (tailSpan l).2 ∧ Rep p' kind hangul hr h (u ++ (tailSpan l).1) ∧ p'.res = p.res := by
  induction l generalizing p with
  | nil => intro u r; exact ⟨p, rfl, by simpa [tailSpan] using r, rfl⟩
  | cons q ps ih =>
    intro u r
    cases hq : isHead q ps
    · obtain ⟨p', e, r', hres⟩ := ih (r.tail_step q ps hq)
      refine ⟨p', by simp [goP, e, tailSpan, hq], by simpa [tailSpan, hq] using r', hres.trans ?_⟩
      rw [stepCore_tail r.st_ne_one hq, (tailStep_frame p q.c).1]
    · exact ⟨p, by simp [tailSpan, hq], by simpa [tailSpan, hq] using r, rfl⟩

/-! #### the syllable part (state 1) -/
def hangulOf (sy : List PC) : List PC := sy.filter (fun q => isHangul q.c)
def isEndOf (k : Nat) (c : Char) : Bool := (endInfo c).any (·.1 = k)

theorem isEndOf_iff {k : Nat} {c : Char} : isEndOf k c = true ↔ ∃ kind, endInfo c = some (k, kind) := by
  unfold isEndOf
  cases endInfo c with
  | none => simp
  | some v => obtain ⟨k', kind⟩ := v; simp [eq_comm]

theorem laterEnd_cons (k : Nat) (q : PC) (ps : List PC) : laterEnd k (q :: ps) = (isEndOf k q.c || laterEnd k ps) :=
  List.any_cons

theorem hangulOf_snoc_end {e : PC} {v : Nat × Nat} (he : endInfo e.c = some v) (pre : List PC) :
    hangulOf (pre ++ [e]) = hangulOf pre ++ [e] := by
  simp [hangulOf, (end_facts he).2.isHangul]

theorem syllSpan_cons (k : Nat) (q : PC) (ps : List PC) :
    syllSpan k (q :: ps) = if isEndOf k q.c then ([q], ((endInfo q.c).getD (0, 0)).2, ps)
      else (q :: (syllSpan k ps).1, (syllSpan k ps).2.1, (syllSpan k ps).2.2) := by
  simp only [syllSpan, isEndOf]
  split
  · rename_i k' kind he; by_cases hk : k' = k <;> simp [he, hk]
  · rename_i he; simp [he]

theorem syllSpan_spec (k : Nat) : ∀ (l : List PC), laterEnd k l = true →
    ∃ pre e rest kind, l = pre ++ e :: rest ∧ syllSpan k l = (pre ++ [e], kind, rest) ∧
      endInfo e.c = some (k, kind) ∧ ∀ q ∈ pre, isEndOf k q.c = false := by
  intro l
  induction l with
  | nil => intro h; cases h
  | cons q ps ih =>
    intro h
    rw [syllSpan_cons]
    cases hq : isEndOf k q.c
    · obtain ⟨pre, e, rest, kind, rfl, hs, he, hp⟩ := ih (by simpa [laterEnd_cons, hq] using h)
      exact ⟨q :: pre, e, rest, kind, rfl, by simp [hs], he, by simpa [hq] using hp⟩
    · obtain ⟨kind, he⟩ := isEndOf_iff.mp hq
      exact ⟨[], q, ps, kind, rfl, by simp [he], he, by simp⟩

theorem syllSpan_bounds {k : Nat} {l : List PC} (h : laterEnd k l = true) :
    (syllSpan k l).2.1 < 6 ∧ (syllSpan k l).2.2.length ≤ l.length := by
  obtain ⟨pre, e, rest, kind, rfl, hs, he, -⟩ := syllSpan_spec k l h
  exact ⟨by rw [hs]; exact (end_facts he).1, by simp [hs]; omega⟩

def Core.count (p : Core) (hs : List PC) : Core :=
  { p with hangul := p.hangul + hs.length, raw := p.raw ++ hs.map (·.c) }

theorem Core.count_append (p : Core) (a b : List PC) : (p.count a).count b = p.count (a ++ b) := by
  simp [Core.count, Nat.add_assoc]

theorem stepCore_fill {p : Core} {k : Nat} (hst : p.st = 1) (hty : p.ty = 6 + k) {q : PC} (hq : isEndOf k q.c = false)
    (loc : Nat × Nat) (ok : Bool) : stepCore p q.c loc ok = p.count (hangulOf [q]) := by
  rw [stepCore, if_pos hst]
  cases he : endInfo q.c with
  | none => cases hh : isHangul q.c <;> simp [Core.count, hangulOf, hh]
  | some v =>
    have hk : p.ty ≠ 6 + v.1 := fun e => by simp [isEndOf, he, show v.1 = k by omega] at hq
    cases hh : isHangul q.c <;> simp [Core.count, hangulOf, hh, hk]

theorem stepCore_close {p : Core} {k kind : Nat} (hst : p.st = 1) (hty : p.ty = 6 + k) {c : Char}
    (he : endInfo c = some (k, kind)) (loc : Nat × Nat) (ok : Bool) :
    stepCore p c loc ok = { p with ty := kind, hangul := p.hangul + 1, raw := p.raw ++ [c], dots := 0, st := 0 } := by
  simp [stepCore, hst, he, hty, (end_facts he).2.isHangul]

theorem goP_fill {k : Nat} (l : List PC) : ∀ (pre : List PC) (p : Core), p.st = 1 → p.ty = 6 + k →
    (∀ q ∈ pre, isEndOf k q.c = false) → goP p (pre ++ l) = goP (p.count (hangulOf pre)) l := by
  intro pre
  induction pre with
  | nil => intro p _ _ _; simp [hangulOf, Core.count]
  | cons q pre ih =>
    intro p hst hty hp
    rw [List.cons_append, goP, stepCore_fill hst hty (hp q (by simp)),
      ih (p.count (hangulOf [q])) hst hty fun x hx => hp x (by simp [hx]), Core.count_append,
      hangulOf, hangulOf, ← List.filter_append]
    rfl

theorem goP_syll (k : Nat) (l : List PC) : ∀ (p : Core), p.st = 1 → p.ty = 6 + k → laterEnd k l = true →
    goP p l = goP { p with ty := (syllSpan k l).2.1
                           hangul := p.hangul + (hangulOf (syllSpan k l).1).length
                           raw := p.raw ++ (hangulOf (syllSpan k l).1).map (·.c)
                           dots := 0, st := 0 } (syllSpan k l).2.2
      ∧ (syllSpan k l).2.1 < 6 := by
  intro p hst hty hl
  obtain ⟨pre, e, rest, kind, rfl, hs, he, hp⟩ := syllSpan_spec k l hl
  refine ⟨?_, (syllSpan_bounds hl).1⟩
  rw [hs, goP_fill _ pre p hst hty hp, goP, stepCore_close (p := p.count (hangulOf pre)) hst hty he,
    hangulOf_snoc_end he]
  simp [Core.count, Nat.add_assoc]

/-! #### from head to head -/

theorem Rep.flush_eq {p : Core} {kind hangul hr h u} (r : Rep p kind hangul hr h u) :
    p.flush = p.res ++ [mkCmd kind hangul hr h u] := by
  have hne : p.ty ≠ 10 := by rw [r.ty]; have := r.klt; omega
  rw [Core.flush, if_pos hne, mkCmd_eq, ← machine_areaOf, ← r.am, r.ty, r.hangul, r.dots, r.loc, r.raw]
  rfl

theorem Rep.start {res : List PCmd} {kind hangul : Nat} {hr : List Char} {q : PC} (hk : kind < 6) :
    Rep ⟨res, kind, hangul, 0, (q.line, q.col), hr, 0, [], none, []⟩ kind hangul hr q [] := by
  constructor <;> simp [dotsOf, preDots, areaChs, toksOf, noArea, hk]

theorem cmds_nil (f : Nat) : cmds f [] = [] := by cases f <;> rfl

theorem cmds_tail {q : PC} {ps : List PC} (hq : isHead q ps = false) (f : Nat) : cmds (f + 1) (q :: ps) = cmds f ps := by
  simp only [isHead, Bool.or_eq_false_iff, Option.isSome_eq_false_iff, Option.isNone_iff_eq_none] at hq
  cases hs : startIdx q.c with
  | none => simp [cmds, hq.1, hs]
  | some k => simp [cmds, hq.1, hs, show laterEnd k ps = false by simpa [hs] using hq.2]

/-- `p.ty = 10`: nothing is pending; at a head the pending command is complete. Induction on the fuel of
`cmds`, a bound of the length, since the syllable part and the tail are jumped over. -/
theorem goP_flush (f : Nat) : ∀ (l : List PC), l.length ≤ f → ∀ (p : Core), p.st ≠ 1 →
    (p.ty = 10 ∨ ∀ q ps, l = q :: ps → isHead q ps = true) → (goP p l).flush = p.flush ++ cmds f l := by
  induction f with
  | zero =>
    intro l hl p _ _
    obtain rfl : l = [] := List.eq_nil_of_length_eq_zero (Nat.le_zero.mp hl)
    simp [goP, cmds]
  | succ f ih =>
    intro l hl p hst hh
    cases l with
    | nil => simp [goP, cmds_nil]
    | cons q ps =>
    simp only [List.length_cons, Nat.add_le_add_iff_right] at hl
    rw [goP]
    cases hq : isHead q ps with
    | false =>
      -- not at a head, so nothing is pending, and `tailStep` keeps it so
      have hty : p.ty = 10 := hh.resolve_right fun h => by simp [h q ps rfl] at hq
      obtain ⟨f1, f2, f3⟩ := tailStep_frame p q.c
      rw [stepCore_tail hst hq, ih ps hl _ (f3 hst) (Or.inl (f2.trans hty)), cmds_tail hq]
      simp [Core.flush, f1, f2, hty]
    | true =>
    -- once the command word is read: the tail, then the next head by induction
    have finish : ∀ {p₁ kind hangul hr} (ps' : List PC), Rep p₁ kind hangul hr q [] → ps'.length ≤ ps.length →
        (goP p₁ ps').flush = p₁.res ++ mkCmd kind hangul hr q (tailSpan ps').1 :: cmds f (tailSpan ps').2 := by
      intro p₁ kind hangul hr ps' r hlen
      obtain ⟨p', h1, h2, h3⟩ := goP_tail ps' r
      rw [h1, ih _ (Nat.le_trans (tailSpan_len ps') (Nat.le_trans hlen hl)) p' h2.st_ne_one (Or.inr (tailSpan_spec ps').2),
        h2.flush_eq, h3]
      simp
    cases hc : cmd1Idx q.c with
    | some k =>
      have hk := (cmd1_facts hc).1
      rw [stepCore_head hst (t := k) (by simp [headIdx, hc]) _ (Or.inl hk), if_pos hk,
        finish ps (Rep.start hk) (Nat.le_refl _)]
      simp [cmds, hc]
    | none =>
      cases hs : startIdx q.c with
      | none => simp [isHead, hc, hs] at hq
      | some k =>
        have hl2 : laterEnd k ps = true := by simpa [isHead, hc, hs] using hq
        have hsy := goP_syll k ps ⟨p.flush, k + 6, 1, 0, (q.line, q.col), [q.c], 1, [], none, []⟩ rfl (Nat.add_comm _ _) hl2
        rw [stepCore_head hst (t := k + 6) (by simp [headIdx, hc, hs]) _ (Or.inr (by simp [okOf, hs, hl2])),
          if_neg (by omega), hsy.1, finish _ (Rep.start hsy.2) (syllSpan_bounds hl2).2]
        simp [cmds, hc, hs, hl2, hangulOf]

theorem goP_eq_cmds (l : List PC) : (goP Core.init l).flush = cmds (l.length + 1) l :=
  goP_flush _ l (Nat.le_succ _) Core.init (by decide) (Or.inl rfl)

/-! ### 3. indices, line/column bookkeeping and the pre-pass -/
theorem maxPosFrom_cons (k : Nat) (c : Char) (i : Nat) (rest : List (Char × Nat)) (acc : Nat) :
    maxPosFrom k ((c, i) :: rest) acc = maxPosFrom k rest (if isEndOf k c then i else acc) := rfl

theorem maxPosFrom_spec (k : Nat) (l : List Char) : ∀ (n acc : Nat),
    (l.any (isEndOf k) = false → maxPosFrom k (l.zipIdx n) acc = acc) ∧
    (l.any (isEndOf k) = true → n ≤ maxPosFrom k (l.zipIdx n) acc ∧ maxPosFrom k (l.zipIdx n) acc < n + l.length) := by
  induction l with
  | nil => intro n acc; simp [maxPosFrom]
  | cons c cs ih =>
    intro n acc
    rw [List.zipIdx_cons, maxPosFrom_cons, List.any_cons, List.length_cons]
    cases hc : isEndOf k c
    · have := ih (n + 1) acc
      rw [if_neg Bool.false_ne_true, Bool.false_or]
      exact ⟨this.1, fun h => by have := this.2 h; omega⟩
    · refine ⟨fun h => Bool.noConfusion h, fun _ => ?_⟩
      rw [if_pos rfl]
      cases hr : cs.any (isEndOf k)
      · rw [(ih (n + 1) n).1 hr]; omega
      · have := (ih (n + 1) n).2 hr; omega

theorem maxPosFrom_append (k : Nat) (a b : List (Char × Nat)) (acc : Nat) :
    maxPosFrom k (a ++ b) acc = maxPosFrom k b (maxPosFrom k a acc) := by
  induction a generalizing acc with
  | nil => rfl
  | cons x xs ih => exact ih _

theorem maxPos_gt (k : Nat) (pre : List Char) (c : Char) (cs : List Char) (hc : isEndOf k c = false) :
    decide (pre.length < maxPos (pre ++ c :: cs) k) = cs.any (isEndOf k) := by
  rw [maxPos, List.zipIdx_append, maxPosFrom_append, List.zipIdx_cons, maxPosFrom_cons, hc, if_neg Bool.false_ne_true,
    Nat.zero_add]
  have h1 : maxPosFrom k (pre.zipIdx 0) 0 ≤ pre.length := by
    cases hp : pre.any (isEndOf k)
    · rw [(maxPosFrom_spec k pre 0 0).1 hp]; omega
    · have := (maxPosFrom_spec k pre 0 0).2 hp; omega
  cases hr : cs.any (isEndOf k)
  · rw [(maxPosFrom_spec k cs _ _).1 hr]; simpa using h1
  · have := (maxPosFrom_spec k cs (pre.length + 1) (maxPosFrom k (pre.zipIdx 0) 0)).2 hr
    simp; omega

theorem ws_not_end {c : Char} (h : isWs c = true) (k : Nat) : isEndOf k c = false := by
  simp [isEndOf, (ws_facts h).endInfo]

theorem nl_ws : isWs '\n' = true := by decide

theorem positioned_chars (s : List Char) (l c : Nat) :
    (positioned s l c).map (·.c) = s.filter (fun c => !isWs c) := by
  fun_induction positioned s l c with
  | case1 => rfl  -- `[]`
  | case2 l c cs ih => simpa [nl_ws] using ih  -- newline
  | case3 l c x cs hn hw ih => simpa [hw] using ih  -- other whitespace
  | case4 l c x cs hn hw ih => simpa [hw] using ih  -- a significant character

theorem laterEnd_positioned (k : Nat) (cs : List Char) (a b : Nat) :
    laterEnd k (positioned cs a b) = cs.any (isEndOf k) := by
  rw [show laterEnd k (positioned cs a b) = ((positioned cs a b).map (·.c)).any (isEndOf k) by rw [List.any_map]; rfl,
    positioned_chars, List.any_filter]
  congr 1; funext c
  cases hw : isWs c with
  | false => rfl
  | true => exact (ws_not_end hw k).symm

theorem okIdx_eq (pre : List Char) (c : Char) (cs : List Char) (a b a' b' : Nat) :
    okIdx (maxPos (pre ++ c :: cs)) c pre.length = okOf ⟨c, a, b⟩ (positioned cs a' b') := by
  simp only [okOf, okIdx]
  cases hst : startIdx c with
  | none => rfl
  | some k =>
    have hce : isEndOf k c = false := by simp [isEndOf, (start_facts hst).2.endInfo]
    simp only [maxPos_gt k pre c cs hce, laterEnd_positioned]

theorem foldl_stepChar_eq_goP (s : List Char) (suf : List Char) : ∀ (pre : List Char) (p : PS),
    s = pre ++ suf → p.lineStart ≤ pre.length →
    ((suf.zipIdx pre.length).foldl (stepChar (maxPos s)) p).core
      = goP p.core (positioned suf (p.line + 1) (pre.length - p.lineStart)) := by
  induction suf with
  | nil => intro pre p _ _; rfl
  | cons c cs ih =>
    intro pre p hs hle
    have ih' := fun core line ls => ih (pre ++ [c]) ⟨core, line, ls⟩ (by simp [hs])
    simp only [List.length_append, List.length_singleton] at ih'
    have hcol : pre.length + 1 - p.lineStart = pre.length - p.lineStart + 1 := Nat.succ_sub hle
    rw [List.zipIdx_cons, List.foldl_cons, stepChar, positioned]
    cases hw : isWs c with
    | true =>
      by_cases hn : c = '\n'
      · simpa [hw, hn] using ih' p.core (p.line + 1) (pre.length + 1) (Nat.le_refl _)
      · simpa [hw, hn, hcol] using ih' p.core p.line p.lineStart (Nat.le_succ_of_le hle)
    | false =>
      have hn : c ≠ '\n' := fun e => by rw [e, nl_ws] at hw; cases hw
      simp only [Bool.false_eq_true, hn, ↓reduceIte, goP]
      rw [ih' _ _ _ (Nat.le_succ_of_le hle), hcol, hs, okIdx_eq]

theorem parse_eq_spec (s : List Char) : parse s = specParse s := by
  unfold parse specParse
  have := foldl_stepChar_eq_goP s s [] ⟨Core.init, 0, 0⟩ rfl (Nat.le_refl _)
  simp only [List.length_nil, Nat.zero_add, Nat.sub_self] at this
  rw [this, goP_eq_cmds]

/-! ### kinds and syllable counts of the emitted commands -/

theorem cmds_all {P : PCmd → Prop} (hP : ∀ kind hangul hr p u, kind < 6 → 1 ≤ hangul → P (mkCmd kind hangul hr p u))
    (f : Nat) (l : List PC) : ∀ c ∈ cmds f l, P c := by
  fun_induction cmds f l with
  | case1 | case2 => simp  -- no fuel, no text
  | case3 f p ps k hk r ih =>  -- one-syllable command
    simp only [List.mem_cons, forall_eq_or_imp]
    exact ⟨hP _ _ _ _ _ (cmd1_facts hk).1 (Nat.le_refl _), ih⟩
  | case4 f p ps hk k hs hl sy hs r ih =>  -- start syllable, end syllable later
    simp only [List.mem_cons, forall_eq_or_imp]
    exact ⟨hP _ _ _ _ _ (syllSpan_bounds hl).1 (Nat.le_add_right _ _), ih⟩
  | case5 | case6 => assumption  -- skipped characters

theorem parse_all {P : PCmd → Prop} (hP : ∀ kind hangul hr p u, kind < 6 → 1 ≤ hangul → P (mkCmd kind hangul hr p u))
    (s : List Char) : ∀ c ∈ parse s, P c :=
  parse_eq_spec s ▸ cmds_all hP _ _

theorem parse_kinds (s : List Char) : ∀ c ∈ parse s, c.kind < 6 ∧ 1 ≤ c.hangul :=
  parse_all (fun _ _ _ _ _ hk hh => ⟨hk, hh⟩) s

end HyP
