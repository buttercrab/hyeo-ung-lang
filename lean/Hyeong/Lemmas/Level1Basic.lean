import Hyeong.Lemmas.StepRel
/-!
# level 1: the stack renumbering is a simulation

For any renumbering `f` that is good for a set of live stacks (`GoodMap`), a program and its renumbered copy run in
lock step (`runN_rel`); that `dotMap` is good is shown in `Level1Inst`.
-/
namespace HyE
variable {N : Type} [NumOps N]

/-- results correspond exactly: corresponding values, or the same stop with the same world -/
inductive EqRes {α β : Type} (Q : α → β → Prop) : Res α → Res β → Prop
  | ok {a b} : Q a b → EqRes Q (.ok a) (.ok b)
  | err {e w} : EqRes Q (.error (e, w)) (.error (e, w))

theorem EqRes.of {α β : Type} {Q : α → β → Prop} {x : Res α} {y : Res β} (h : ResRel Eq (fun _ => False) Q x y) :
    EqRes Q x y := by
  cases h with
  | ok hab => exact .ok hab
  | err he => subst he; exact .err
  | top hu => exact hu.elim

/-- `b` is `a` with its live stacks moved by `f`; nothing is said about the other slots of `b` -/
structure Rel (f : Nat → Nat) (live : Nat → Prop) (a b : St N) : Prop where
  cur : b.cur = f a.cur
  curLive : live a.cur
  stacks : ∀ i, live i → b.stacks (f i) = a.stacks i
  points : b.points = a.points
  latest : b.latest = a.latest

structure GoodMap (f : Nat → Nat) (live : Nat → Prop) : Prop where
  inj : ∀ i j, live i → live j → f i = f j → i = j
  fix0 : f 0 = 0
  fix1 : f 1 = 1
  fix2 : f 2 = 2
  live0 : live 0
  live1 : live 1
  live2 : live 2
  /-- the slots of the live stacks are not used for any other stack -/
  sep : ∀ i j, live i → ¬ live j → f i ≠ f j
  /-- only the I/O stacks map to the I/O slots -/
  io : ∀ i, f i ≤ 2 → i = f i

def RelM (f : Nat → Nat) (live : Nat → Prop) (a b : M N) : Prop := Rel f live a.1 b.1 ∧ a.2 = b.2

omit [NumOps N] in
/-- the start state: stack 3 is selected -/
theorem RelM.init {f live} (hf : f 3 = 3) (hl : live 3) (w : World) : RelM (N := N) f live (St.init, w) (St.init, w) :=
  ⟨⟨hf.symm, hl, fun _ _ => rfl, rfl, rfl⟩, rfl⟩

theorem GoodMap.fix {f live} (g : GoodMap f live) {k : Nat} (hk : k ≤ 2) : f k = k := by
  match k, hk with
  | 0, _ => exact g.fix0
  | 1, _ => exact g.fix1
  | 2, _ => exact g.fix2

theorem GoodMap.io_iff {f live} (g : GoodMap f live) (i : Nat) {k : Nat} (hk : k ≤ 2) : i = k ↔ f i = k :=
  ⟨fun e => by rw [e]; exact g.fix hk, fun e => (g.io i (by rw [e]; exact hk)).trans e⟩

omit [NumOps N] in
theorem Rel.setLive {f live} (g : GoodMap f live) {a b : St N} (h : Rel f live a b) {i : Nat} (hl : live i) (l : List N) :
    Rel f live (setStack a i l) (setStack b (f i) l) := by
  refine ⟨h.cur, h.curLive, ?_, h.points, h.latest⟩
  intro j hj
  by_cases hji : j = i
  · rw [hji, setStack_same, setStack_same]
  · rw [setStack_ne fun e => hji (g.inj j i hj hl e), setStack_ne hji]
    exact h.stacks j hj

omit [NumOps N] in
theorem Rel.setDead {f live} (g : GoodMap f live) {a b : St N} (h : Rel f live a b) {i : Nat} (hl : ¬ live i) (l l' : List N) :
    Rel f live (setStack a i l) (setStack b (f i) l') := by
  refine ⟨h.cur, h.curLive, ?_, h.points, h.latest⟩
  intro j hj
  rw [setStack_ne (g.sep j i hj hl), setStack_ne fun e : j = i => hl (e ▸ hj)]
  exact h.stacks j hj

theorem pushRaw_rel {f live} (g : GoodMap f live) {a b : St N} (h : Rel f live a b) (i : Nat) (n : N) :
    Rel f live (pushRaw a i n) (pushRaw b (f i) n) := by
  by_cases hl : live i
  · unfold pushRaw
    rw [h.stacks i hl]
    split
    · exact h
    · exact h.setLive g hl _
  · obtain ⟨l, e⟩ := pushRaw_eq_setStack a i n
    obtain ⟨l', e'⟩ := pushRaw_eq_setStack b (f i) n
    rw [e, e']
    exact h.setDead g hl l l'

theorem popRaw_rel {f live} (g : GoodMap f live) {a b : St N} (h : Rel f live a b) (i : Nat) (hl : live i) :
    (popRaw a i).1 = (popRaw b (f i)).1 ∧ Rel f live (popRaw a i).2 (popRaw b (f i)).2 := by
  unfold popRaw
  rw [h.stacks i hl]
  cases a.stacks i with
  | nil => exact ⟨rfl, h⟩
  | cons x rest => exact ⟨rfl, h.setLive g hl rest⟩

/-- the left machine may pop from a live stack `i` while the right one pops from `f i` -/
def LiveAt (f : Nat → Nat) (live : Nat → Prop) (i i' : Nat) : Prop := live i ∧ i' = f i

theorem stepRel_rel {f live} (g : GoodMap f live) :
    StepRel Eq (fun _ => False) Eq (RelM (N := N) f live) (LiveAt f live) (fun i i' => i' = f i) where
  num := .refl N
  pop := by
    rintro a b i _ h ⟨hl, rfl⟩
    have h0 : b.1.stacks 0 = a.1.stacks 0 := by rw [← h.1.stacks 0 g.live0, g.fix0]
    refine popWrap_lift h (hi := fun _ => g.io_iff i) (hs := fun _ => ⟨by rw [h0], congrArg World.stdin h.2⟩)
      (stop := fun _ => by rw [h.2]) (line := fun l _ _ _ => ⟨?_, by rw [h.2]⟩)
      (raw := fun hab => ⟨(popRaw_rel g hab.1 i hl).1, (popRaw_rel g hab.1 i hl).2, hab.2⟩)
    have := h.1.setLive g g.live0 (lineStack l)
    rwa [g.fix0] at this
  push := by
    rintro a b i _ n _ h rfl rfl
    exact pushWrap_lift (hi := fun _ hk => g.io_iff i (by omega)) (render := .inr rfl) (stop := fun _ => by rw [h.2])
      (text := fun _ => ⟨h.1, by rw [h.2]⟩) (raw := ⟨pushRaw_rel g h.1 i n, h.2⟩)
  cur h := ⟨⟨h.1.curLive, h.1.cur⟩, h.1.cur⟩
  select := by rintro a b i _ h ⟨hl, rfl⟩ _; exact ⟨⟨rfl, hl, h.1.stacks, h.1.points, h.1.latest⟩, h.2⟩

theorem pushWrap_rel {f live} (g : GoodMap f live) {a b : M N} (h : RelM f live a b) (i : Nat) (n : N) :
    EqRes (RelM f live) (pushWrap a i n) (pushWrap b (f i) n) :=
  .of ((stepRel_rel g).push h rfl rfl)

omit [NumOps N] in
theorem jumpRel_rel {f live} : JumpRel (RelM (N := N) f live) :=
  JumpRel.of (fun h => ⟨h.1.points.symm, h.1.latest.symm⟩) fun h _ _ => ⟨⟨h.1.cur, h.1.curLive, h.1.stacks, rfl, rfl⟩, h.2⟩

/-- the renumbered command: same command, stack operand moved by `f`; a switch target is live -/
structure CmdRel (f : Nat → Nat) (live : Nat → Prop) (c c' : Cmd) : Prop where
  kind : c'.kind = c.kind
  hangul : c'.hangul = c.hangul
  areaCount : c'.areaCount = c.areaCount
  area : c'.area = c.area
  dots0 : c.kind = 0 → c'.dots = c.dots
  dots : c.kind ≠ 0 → c'.dots = f c.dots
  switchLive : 5 ≤ c.kind → live c.dots

theorem CmdRel.cmdI {f live} {c c' : Cmd} (hc : CmdRel f live c c') : CmdI (LiveAt f live) (fun i i' => i' = f i) c c' :=
  ⟨hc.kind, hc.hangul, hc.areaCount, hc.area, hc.dots0, hc.dots, fun h => ⟨hc.switchLive h, hc.dots (by omega)⟩⟩

theorem runN_rel {f live} (g : GoodMap f live) {p p' : List Cmd} (hp : ProgI (LiveAt f live) (fun i i' => i' = f i) p p')
    (n : Nat) {c c' : Cfg N} (h : RelM f live c.m c'.m) (hl : c.loc = c'.loc) :
    obs (runN p n c) = obs (runN p' n c') ∧ Rel f live (runN p n c).1.m.1 (runN p' n c').1.m.1 :=
  ((stepRel_rel g).runN jumpRel_rel hp n h.1 h.2 hl).resolve_left fun ⟨_, hu, _⟩ => hu

end HyE
