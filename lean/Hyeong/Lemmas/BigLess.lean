import Hyeong.Lemmas.BigBasic
/-!
`less_core`: strip the high zeros, compare the lengths, then the limbs from the top. On limbs in range this decides
`value l < value r` (`lessCore_iff`).
-/
namespace HyB

/-- the top limb of a non-empty `dropZeros v` is not zero, so the value reaches that limb's weight -/
theorem dropZeros_lower {v : List Nat} : dropZeros v ≠ [] → B ^ ((dropZeros v).length - 1) ≤ value (dropZeros v) := by
  induction v with
  | nil => exact fun h => absurd rfl h
  | cons x xs ih =>
    rw [dropZeros]
    split
    · exact fun h => absurd rfl h
    · rename_i hc
      intro _
      by_cases hr : dropZeros xs = []
      · rw [hr]
        exact Nat.le_add_right_of_le (Nat.pos_of_ne_zero fun h0 => hc ⟨hr, h0⟩)
      · have := Nat.mul_le_mul_left B (ih hr)
        rw [← Nat.pow_succ', Nat.succ_eq_add_one, Nat.sub_add_cancel (List.length_pos_iff.mpr hr)] at this
        exact Nat.le_add_left_of_le this

theorem value_lt_of_length_lt {a b : List Nat} (ha : Limbs a) (h : a.length < (dropZeros b).length) :
    value a < value (dropZeros b) :=
  Nat.lt_of_lt_of_le (value_lt ha) (Nat.le_trans (Nat.pow_le_pow_right B_pos (Nat.le_sub_one_of_lt h))
    (dropZeros_lower (List.ne_nil_of_length_pos (Nat.zero_lt_of_lt h))))

/-- `a`, `b`: the leading limbs, of weight `P`; `VA`, `VB`: the lower parts, on which `rest` has decided -/
theorem lex_step {P VA VB a b : Nat} {rest : Bool} (hA : VA < P) (hB : VB < P) (ih : rest = true ↔ VA < VB) :
    (if a ≠ b then decide (a < b) else rest) = true ↔ VA + P * a < VB + P * b := by
  -- a smaller leading limb decides, whatever the lower limbs are
  have lead {V W a b : Nat} (hV : V < P) (h : a < b) : V + P * a < W + P * b :=
    Nat.lt_of_lt_of_le (lead_lt hV h) (Nat.le_add_left ..)
  rcases Nat.lt_trichotomy a b with h | rfl | h
  · rw [if_pos (Nat.ne_of_lt h), decide_eq_true h]
    exact iff_of_true rfl (lead hA h)
  · rw [if_neg (not_not_intro rfl), ih]
    exact Nat.add_lt_add_iff_right.symm
  · rw [if_pos (Nat.ne_of_gt h), decide_eq_false (Nat.lt_asymm h)]
    exact iff_of_false Bool.false_ne_true (Nat.lt_asymm (lead hB h))

theorem lexLess_iff {as bs : List Nat} (hl : as.length = bs.length) (ha : Limbs as) (hb : Limbs bs) :
    lexLess as bs = true ↔ value as.reverse < value bs.reverse := by
  induction as generalizing bs with
  | nil =>
    obtain rfl := List.length_eq_zero_iff.mp hl.symm
    exact iff_of_false Bool.false_ne_true (Nat.lt_irrefl 0)
  | cons a as ih =>
    obtain ⟨b, bs, rfl⟩ := List.exists_cons_of_length_eq_add_one hl.symm
    have hA := value_lt (limbs_reverse ha.tail)
    have hB := value_lt (limbs_reverse hb.tail)
    rw [List.length_reverse] at hA hB
    rw [List.reverse_cons, List.reverse_cons, value_append, value_append, List.length_reverse, List.length_reverse,
      value_singleton, value_singleton]
    -- `lex_step` wants one weight `P` for both leading limbs: write `B ^ bs.length` as `B ^ as.length`
    rw [← Nat.succ.inj hl] at hB ⊢
    exact lex_step hA hB (ih (Nat.succ.inj hl) ha.tail hb.tail)

theorem lessCore_iff {l r : List Nat} (hl : Limbs l) (hr : Limbs r) :
    lessCore l r = true ↔ value l < value r := by
  have hl' := limbs_dropZeros hl
  have hr' := limbs_dropZeros hr
  rw [lessCore, ← value_dropZeros l, ← value_dropZeros r]
  by_cases hlen : (dropZeros l).length = (dropZeros r).length
  · have := lexLess_iff (by rw [List.length_reverse, List.length_reverse, hlen]) (limbs_reverse hl') (limbs_reverse hr')
    rw [List.reverse_reverse, List.reverse_reverse] at this
    simp only [hlen, ne_eq, not_true_eq_false, ↓reduceIte, this]
  · simp only [ne_eq, hlen, not_false_eq_true, ↓reduceIte, decide_eq_true_eq]
    refine ⟨value_lt_of_length_lt hl', fun h => ?_⟩
    refine Nat.lt_of_le_of_ne (Nat.le_of_not_lt fun h2 => ?_) hlen
    exact Nat.lt_asymm h (value_lt_of_length_lt hr' h2)

end HyB
