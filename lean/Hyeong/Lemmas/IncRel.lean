import Hyeong.Lemmas.WorldSim
import Hyeong.Lemmas.IncAll
/-!
# two incremental runs side by side

A relation that steps respect is respected by the loops of `execute` and `executeAll` (same fuel on both sides, so
they hang together).  Instance: an input-free program in two worlds, of which one holds text written before and both
hold whatever input.
-/
namespace HyE
variable {N : Type} [NumOps N]

theorem execLoop_rel (QC : Cfg N → Cfg N → Prop) (E : World → World → Prop)
    (hloc : ∀ {a b}, QC a b → a.loc = b.loc) (p : List Cmd)
    (hstep : ∀ {a b}, QC a b → ResRel (StopW E) (fun _ => False) QC (step p a) (step p b)) :
    ∀ (fuel : Nat) {a b : Cfg N}, QC a b →
      Option.Rel (ResRel (StopW E) (fun _ => False) QC) (execLoop p fuel a) (execLoop p fuel b) := by
  intro fuel
  induction fuel with
  | zero => intro a b _; exact .none
  | succ fuel ih =>
    intro a b h
    simp only [execLoop]
    rw [← hloc h]
    split
    · exact .some (.ok h)
    · have h1 := hstep h
      generalize step p a = x at h1 ⊢
      generalize step p b = y at h1 ⊢
      cases h1 with
      | ok hq => exact ih hq
      | err he => exact .some (.err he)
      | top hu => exact hu.elim

theorem executeAll_rel (QM : M N → M N → Prop) (E : World → World → Prop) (good : Cmd → Prop)
    (hstep : ∀ (p : List Cmd), (∀ x ∈ p, good x) → ∀ {a b : Cfg N}, QM a.m b.m ∧ a.loc = b.loc →
      ResRel (StopW E) (fun _ => False) (fun x y => QM x.m y.m ∧ x.loc = y.loc) (step p a) (step p b)) :
    ∀ (cs : List Cmd) (fuel : Nat) (pre : List Cmd), (∀ x ∈ pre ++ cs, good x) → ∀ {a b : M N}, QM a b →
    Option.Rel (ResRel (StopW E) (fun _ => False) (fun (x y : List Cmd × M N) => x.1 = y.1 ∧ QM x.2 y.2))
      (executeAll fuel pre a cs) (executeAll fuel pre b cs) := by
  intro cs
  induction cs with
  | nil => intro fuel pre _ a b h; exact .some (.ok ⟨rfl, h⟩)
  | cons c cs ih =>
    intro fuel pre hg a b h
    have hg : ∀ x ∈ (pre ++ [c]) ++ cs, good x := by rw [List.append_assoc]; exact hg
    simp only [executeAll, execute]
    have := execLoop_rel (fun x y => QM x.m y.m ∧ x.loc = y.loc) E (fun h => h.2) (pre ++ [c])
      (hstep _ fun x hx => hg x (List.mem_append_left _ hx)) fuel (a := ⟨a, pre.length⟩) (b := ⟨b, pre.length⟩) ⟨h, rfl⟩
    generalize execLoop (pre ++ [c]) fuel ⟨a, pre.length⟩ = x at this ⊢
    generalize execLoop (pre ++ [c]) fuel ⟨b, pre.length⟩ = y at this ⊢
    cases this with
    | none => exact .none
    | some hr =>
      cases hr with
      | ok hab => exact ih fuel (pre ++ [c]) hg hab.1
      | err he => exact .some (.err he)
      | top hu => exact hu.elim

/-- the worlds of two runs of which the first had written `O`/`E` before; the remaining inputs are `sa`, `sb` -/
def W0 (O E : List Char) (sa sb : List (List Char)) (w w' : World) : Prop :=
  w = ⟨sa, O ++ w'.out, E ++ w'.err⟩ ∧ w'.stdin = sb

theorem W0.emitSim (O E : List Char) (sa sb : List (List Char)) : EmitSim (W0 O E sa sb) := by
  intro w w' i cs ⟨hw, hs⟩
  subst hw
  unfold emit
  split
  · exact ⟨by rw [List.append_assoc], hs⟩
  · exact ⟨by rw [List.append_assoc], hs⟩

theorem executeAll_noinput {O E : List Char} {sa sb : List (List Char)} {cs : List Cmd} (fuel : Nat) {pre : List Cmd}
    (hg : ∀ x ∈ pre ++ cs, NoIn x) {a b : M N} (h : Q0 (W0 O E sa sb) a b) :
    Option.Rel (ResRel (StopW (W0 O E sa sb)) (fun _ => False)
        (fun (x y : List Cmd × M N) => x.1 = y.1 ∧ Q0 (W0 O E sa sb) x.2 y.2))
      (executeAll fuel pre a cs) (executeAll fuel pre b cs) :=
  executeAll_rel (Q0 (W0 O E sa sb)) (W0 O E sa sb) NoIn
    (fun _ hp _ _ hab => (stepRel_0 (W0.emitSim O E sa sb)).step jumpRel_0 (.same fun c hc => (hp c hc).cmdI) hab.1 hab.2)
    cs fuel pre hg h

end HyE
