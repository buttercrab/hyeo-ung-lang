import Hyeong.Lemmas.CopyView
import Hyeong.Spec.Programs
/-!
# C14: the straight-line programs `catN k` (`흑`, `k` × `항.`) and `revN k` (`흑`, `k` × `항...`, `흑...`, `(k+1)` × `항.`)

Both are made of runs of one repeated command that handles one character: induction on the characters.
-/
namespace HyE
open HyN

/-- the first command `흑` from the initial state: stack 3 is empty, its NaN is pushed nowhere (both stacks are empty),
stack 0 is selected. The view does not say that stack 0 is still empty, so this step is done on the state itself. -/
theorem At.select0 {p : List Cmd} (hp : p[0]? = some cmdSel0) (input : List Char) :
    At p (initCfg input) 1 1 ⟨0, [], input, [], [], []⟩ := by
  let m0 : M NumI := (initCfg input).m
  have he : execCmd m0 cmdSel0 = .ok ({ m0.1 with cur := 0 }, m0.2) := exec_sel (x := HyN.nan) (m1 := m0) (m2 := m0) rfl rfl rfl rfl rfl
  exact ⟨_, iterOk_one (List.getElem?_eq_some_iff.mp hp).1 (step_nil hp rfl he), rfl,
    ⟨[], rfl, (splitLines_flatten input).1, (splitLines_flatten input).2⟩, rfl, rfl, rfl, rfl⟩

theorem drop_eq_cons {α : Type} {l r : List α} {i : Nat} {a : α} (h : l.drop i = a :: r) : l[i]? = some a ∧ l.drop (i + 1) = r :=
  ⟨by rw [← Nat.add_zero i, ← List.getElem?_drop, h]; rfl, by rw [← List.tail_drop, h]; rfl⟩

section
variable {p q : List Cmd} {c0 : Cfg NumI} {pre : List NumI} {rest : List Char} {pts : List (Nat × Nat)}

/-- a run of `항.` with stack 0 selected copies as many characters to standard output -/
theorem At.run_out0 {st3 : List NumI} : ∀ (cs : List Char) {k n loc : Nat} {out : List Char}, cs.length = k →
    p.drop loc = List.replicate k cmdOut ++ q → At p c0 n loc ⟨0, [], cs ++ rest, st3, out, pts⟩ →
    At p c0 (n + k) (loc + k) ⟨0, [], rest, st3, out ++ cs, pts⟩
  | [], _, _, _, _, rfl, _, h => by rwa [List.append_nil]
  | c :: cs, _, n, loc, out, rfl, hp, h => by
    obtain ⟨h0, hp'⟩ := drop_eq_cons hp
    have h1 := h.step h0 rfl (.add (xs := [charNum c]) rfl rfl (.cons Pop.char .nil) rfl (.out (render_add_charNum c)))
    have h2 := At.run_out0 cs rfl hp' h1
    rw [List.append_assoc] at h2
    exact h2.cast (Nat.add_right_comm ..) (Nat.add_right_comm ..)

/-- a run of `항...` with stack 0 selected moves as many characters onto stack 3 -/
theorem At.run_to3 {out : List Char} : ∀ (cs : List Char) {k n loc : Nat} {st3 : List NumI}, cs.length = k →
    p.drop loc = List.replicate k cmdTo3 ++ q → At p c0 n loc ⟨0, [], cs ++ rest, st3, out, pts⟩ →
    At p c0 (n + k) (loc + k) ⟨0, [], rest, cs.reverse.map charNum ++ st3, out, pts⟩
  | [], _, _, _, _, rfl, _, h => h
  | c :: cs, _, n, loc, st3, rfl, hp, h => by
    obtain ⟨h0, hp'⟩ := drop_eq_cons hp
    have h1 := h.step h0 rfl
      (.add (xs := [charNum c]) rfl rfl (.cons Pop.char .nil) (add_zero_charNum c) (.st3 (.inr (charNum_isNan c))))
    have h2 := At.run_to3 cs rfl hp' h1
    rw [List.reverse_cons, List.map_append, List.append_assoc]
    exact h2.cast (Nat.add_right_comm ..) (Nat.add_right_comm ..)

/-- a run of `항.` with stack 3 selected writes as many characters from it to standard output -/
theorem At.run_out3 {rem : List Char} {st3 : List NumI} : ∀ (cs : List Char) {k n loc : Nat} {out : List Char}, cs.length = k →
    p.drop loc = List.replicate k cmdOut ++ q → At p c0 n loc ⟨3, pre, rem, cs.map charNum ++ st3, out, pts⟩ →
    At p c0 (n + k) (loc + k) ⟨3, pre, rem, st3, out ++ cs, pts⟩
  | [], _, _, _, _, rfl, _, h => by rwa [List.append_nil]
  | c :: cs, _, n, loc, out, rfl, hp, h => by
    obtain ⟨h0, hp'⟩ := drop_eq_cons hp
    have h1 := h.step h0 rfl (.add (xs := [charNum c]) rfl rfl (.cons Pop.st3 .nil) rfl (.out (render_add_charNum c)))
    have h2 := At.run_out3 cs rfl hp' h1
    rw [List.append_assoc] at h2
    exact h2.cast (Nat.add_right_comm ..) (Nat.add_right_comm ..)

end

theorem catN_correct (input : List Char) (k : Nat) (hk : k ≤ input.length) :
    (runN (catN k) (k + 1) (initCfg input)).2 = .ended ∧
    (runN (catN k) (k + 1) (initCfg input)).1.m.2.out = input.take k ∧
    (runN (catN k) (k + 1) (initCfg input)).1.m.2.err = [] := by
  have hlen : (input.take k).length = k := by rw [List.length_take, Nat.min_eq_left hk]
  have h1 : At (catN k) (initCfg input) 1 1 ⟨0, [], input.take k ++ input.drop k, [], [], []⟩ := by
    rw [List.take_append_drop]; exact At.select0 rfl input
  have h2 := h1.run_out0 (input.take k) hlen (List.append_nil _).symm
  rw [Nat.add_comm 1 k] at h2
  exact (h2.cast rfl (by rw [catN, List.length_cons, List.length_replicate])).ended

theorem revN_drop (k : Nat) : (revN k).drop (1 + k) = cmdSel3 :: List.replicate (k + 1) cmdOut := by
  rw [Nat.add_comm, revN, List.drop_succ_cons, List.drop_left' List.length_replicate]

theorem revN_correct (input : List Char) (k : Nat) (hk : k + 1 ≤ input.length) :
    (runN (revN k) (2 * k + 3) (initCfg input)).2 = .ended ∧
    (runN (revN k) (2 * k + 3) (initCfg input)).1.m.2.out = (input.take (k + 1)).reverse ∧
    (runN (revN k) (2 * k + 3) (initCfg input)).1.m.2.err = [] := by
  have hlen : (input.take k).length = k := by rw [List.length_take, Nat.min_eq_left (Nat.le_of_succ_le hk)]
  obtain ⟨hsel, hout⟩ := drop_eq_cons (revN_drop k)
  have h1 : At (revN k) (initCfg input) 1 1 ⟨0, [], input.take k ++ input[k] :: input.drop (k + 1), [], [], []⟩ := by
    rw [← List.drop_eq_getElem_cons, List.take_append_drop]; exact At.select0 rfl input
  have h2 := h1.run_to3 (input.take k) hlen rfl
  -- `흑...`: the next character is copied onto stack 3 (and put back), stack 3 becomes the selected stack
  have h3 : At (revN k) (initCfg input) (1 + k + 1) (1 + k + 1)
      ⟨3, [charNum input[k]], input.drop (k + 1), (input[k] :: (input.take k).reverse).map charNum ++ [], [], []⟩ :=
    h2.step hsel rfl (.sel rfl rfl Pop.char (.st3 (.inr (charNum_isNan _))) (.st0 (charNum_isNan _)))
  have h4 : At (revN k) (initCfg input) (1 + k + 1 + (k + 1)) (1 + k + 1 + (k + 1))
      ⟨3, [charNum input[k]], input.drop (k + 1), [], input[k] :: (input.take k).reverse, []⟩ :=
    h3.run_out3 _ (by simp [hlen]) (hout.trans (List.append_nil _).symm)
  have h5 := (h4.cast (n' := 2 * k + 3) (by omega) (by simp [revN]; omega)).ended
  refine ⟨h5.1, h5.2.1.trans ?_, h5.2.2⟩
  rw [List.take_succ_eq_append_getElem hk, List.reverse_append]
  rfl

end HyE
