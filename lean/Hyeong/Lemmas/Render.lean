import Hyeong.Spec.Render
import Hyeong.Lemmas.ParseProof
/-! Renderings (C08): a text made of renderings is read back as written (`parse_rend`), the source texts
the parser reports are renderings (`parse_raw_rend`), every command has a canonical rendering
(`render_isRendering`). -/
namespace HyP

/-! ### the reference parser only looks at characters

`laterEndC` … `cmdsC` are `laterEnd` … `cmds` line by line, so both take the same branch everywhere. -/
theorem laterEnd_map (k : Nat) (ps : List PC) : laterEnd k ps = laterEndC k (ps.map (·.c)) := by
  rw [laterEndC, List.any_map]; rfl

theorem isHead_map (p : PC) (ps : List PC) : isHead p ps = isHeadC p.c (ps.map (·.c)) := by
  simp [isHead, isHeadC, laterEnd_map]

theorem syllSpan_map (k : Nat) (ps : List PC) :
    syllSpanC k (ps.map (·.c)) = ((syllSpan k ps).1.map (·.c), (syllSpan k ps).2.1, (syllSpan k ps).2.2.map (·.c)) := by
  fun_induction syllSpan k ps <;> simp +zetaDelta [syllSpanC, *]

theorem tailSpan_map (ps : List PC) :
    tailSpanC (ps.map (·.c)) = ((tailSpan ps).1.map (·.c), (tailSpan ps).2.map (·.c)) := by
  fun_induction tailSpan ps <;> simp +zetaDelta [tailSpanC, ← isHead_map, *]

theorem mkCmd_strip (kind hangul : Nat) (hr : List Char) (p : PC) (tail : List PC) :
    (mkCmd kind hangul hr p tail).strip = mkCmdC kind hangul (tail.map (·.c)) := by
  simp [mkCmd, PCmd.strip, mkCmdC, dotsC, areaC, List.takeWhile_map, List.filter_map, List.filterMap_map,
    Function.comp_def]

theorem cmds_strip (f : Nat) (ps : List PC) : (cmds f ps).map PCmd.strip = cmdsC f (ps.map (·.c)) := by
  -- in each of the six cases `*`, the tests of that branch of `cmds`, sends `cmdsC` down the same branch; there the
  -- command and the spans agree by the lemmas above, and the rest by induction
  fun_induction cmds f ps <;>
    simp +zetaDelta [cmdsC, mkCmd_strip, syllSpan_map, tailSpan_map, ← laterEnd_map, List.filter_map, Function.comp_def, *]

theorem parse_strip (s : List Char) : (parse s).map PCmd.strip = cmdsC ((sig s).length + 1) (sig s) := by
  rw [parse_eq_spec, specParse, cmds_strip, positioned_chars, ← List.length_map (·.c), positioned_chars]
  rfl

theorem tailSpanC_tail (t rest : List Char) (ht : TailOk t) (hr : ∀ r rs, rest = r :: rs → isHeadC r rs = true) :
    tailSpanC (t ++ rest) = (t, rest) := by
  induction t with
  | nil =>
    cases rest with
    | nil => rfl
    | cons r rs => simp [tailSpanC, hr r rs rfl]
  | cons c cs ih =>
    have hc : isHeadC c (cs ++ rest) = false := by simp [isHeadC, ht c (by simp)]
    simp [tailSpanC, hc, ih fun x hx => ht x (by simp [hx])]

theorem syllSpanC_fill (k kind : Nat) (fill : List Char) (e : Char) (after : List Char)
    (hf : ∀ c ∈ fill, ∀ kk kd, endInfo c = some (kk, kd) → kk ≠ k) (he : endInfo e = some (k, kind)) :
    syllSpanC k (fill ++ e :: after) = (fill ++ [e], kind, after) := by
  induction fill with
  | nil => simp [syllSpanC, he]
  | cons c cs ih =>
    have ih' := ih fun x hx => hf x (by simp [hx])
    rw [List.cons_append, syllSpanC]
    split
    · rename_i k' kd hc
      simp [hf c (by simp) k' kd hc, ih']
    · simp [ih']

theorem laterEndC_mid {k kind : Nat} {e : Char} (he : endInfo e = some (k, kind)) (fill after : List Char) :
    laterEndC k (fill ++ e :: after) = true := by
  simp [laterEndC, he]

theorem word_head {kind hangul : Nat} {w : List Char} (hw : IsWord kind hangul w) :
    ∃ c w', w = c :: w' ∧ ∀ after, isHeadC c (w' ++ after) = true := by
  rcases hw with ⟨_, c, hc, rfl⟩ | ⟨s, k, fill, e, hs, he, _, _, rfl⟩
  · exact ⟨c, [], rfl, fun _ => by simp [isHeadC, hc]⟩
  · exact ⟨s, fill ++ [e], rfl, fun after => by simp [isHeadC, hs, laterEndC_mid he]⟩

theorem cmdsC_word {kind hangul : Nat} {w : List Char} (hw : IsWord kind hangul w) (f : Nat) (after : List Char) :
    cmdsC (f + 1) (w ++ after) = mkCmdC kind hangul (tailSpanC after).1 :: cmdsC f (tailSpanC after).2 := by
  rcases hw with ⟨rfl, c, hc, rfl⟩ | ⟨s, k, fill, e, hs, he, hfill, rfl, rfl⟩
  · simp [cmdsC, hc]
  · -- the end syllable is counted as well
    simp [cmdsC, (start_facts hs).2.cmd1Idx, hs, laterEndC_mid he, syllSpanC_fill k kind fill e after hfill he,
      List.filter_append, (end_facts he).2.isHangul]
    congr 1; omega

/-- the text is renderings of the commands, one after the other -/
inductive Rend : List SCmd → List Char → Prop
  | nil : Rend [] []
  | cons {c cs t rest} : IsRendering c t → Rend cs rest → Rend (c :: cs) (t ++ rest)

theorem Rend.head {cs : List SCmd} {txt : List Char} (h : Rend cs txt) :
    ∀ r rs, txt = r :: rs → isHeadC r rs = true := by
  cases h with
  | nil => intro r rs e; cases e
  | cons hr _ =>
    obtain ⟨w, tail, rfl, hw, -⟩ := hr
    obtain ⟨c, w', rfl, hh⟩ := word_head hw
    intro r rs e
    simp only [List.cons_append, List.cons.injEq] at e
    rw [← e.1, ← e.2, List.append_assoc]
    exact hh _

theorem cmdsC_rend {cs : List SCmd} {txt : List Char} (h : Rend cs txt) : ∀ f, txt.length ≤ f → cmdsC f txt = cs := by
  induction h with
  | nil => intro f _; cases f <;> rfl
  | @cons c cs t rest hr hrest ih =>
    obtain ⟨w, tail, rfl, hw, htail, hdots, harea⟩ := hr
    intro f hf
    -- a word is not empty, so there is fuel
    obtain ⟨c₀, w', hw', -⟩ := word_head hw
    obtain ⟨f, rfl⟩ : ∃ f', f = f' + 1 := ⟨f - 1, by simp [hw'] at hf; omega⟩
    rw [List.append_assoc, cmdsC_word hw, tailSpanC_tail tail rest htail hrest.head, ih f (by simp [hw'] at hf; omega),
      mkCmdC, hdots, harea]

theorem cmdsC_garbage (pre : List Char) (hp : TailOk pre) (txt : List Char) (f : Nat) :
    cmdsC (f + pre.length) (pre ++ txt) = cmdsC f txt := by
  induction pre with
  | nil => rfl
  | cons c cs ih =>
    rw [List.length_cons, ← Nat.add_assoc, List.cons_append, cmdsC, (hp c (by simp)).1, (hp c (by simp)).2]
    exact ih fun x hx => hp x (by simp [hx])

/-! ### whitespace is invisible -/

theorem takeWhile_filter {α : Type} {p q : α → Bool} (h : ∀ a, p a = false → q a = true) (l : List α) :
    (l.filter p).takeWhile q = (l.takeWhile q).filter p := by
  induction l with
  | nil => rfl
  | cons a l ih =>
    cases hp : p a <;> cases hq : q a <;> simp [hp, hq, ih]
    simp [h a hp] at hq

theorem filter_sig {f : Char → Bool} (hf : ∀ c, isWs c = true → f c = false) (l : List Char) :
    (sig l).filter f = l.filter f := by
  rw [sig, List.filter_filter]
  exact List.filter_congr fun c _ => by
    cases h : isWs c with
    | false => simp
    | true => simp [hf c h]

theorem dotsC_sig (t : List Char) : dotsC (sig t) = dotsC t := by
  rw [dotsC, sig, takeWhile_filter fun c h => by simp [isAreaCh, (ws_facts (by simpa using h)).tokOf], ← sig,
    filter_sig fun c h => by simp [(ws_facts h).dotW]]
  rfl

theorem areaC_sig (t : List Char) : areaC (sig t) = areaC t := by
  rw [areaC, sig, List.filterMap_filter]
  congr 2; funext c
  cases h : isWs c with
  | false => rfl
  | true => exact (ws_facts h).tokOf.symm

theorem sig_append (a b : List Char) : sig (a ++ b) = sig a ++ sig b := List.filter_append ..

theorem TailOk.sig {t : List Char} (h : TailOk t) : TailOk (sig t) := fun x hx => h x (List.mem_filter.mp hx).1

theorem IsWord.sig_ok {kind hangul : Nat} {w : List Char} (h : IsWord kind hangul w) : IsWord kind hangul (sig w) := by
  rcases h with ⟨h1, c, hc, rfl⟩ | ⟨s, k, fill, e, hs, he, hfill, hh, rfl⟩
  · exact Or.inl ⟨h1, c, hc, by simp [sig, (cmd1_facts hc).2.isWs]⟩
  · refine Or.inr ⟨s, k, sig fill, e, hs, he, fun c hc => hfill c (List.mem_filter.mp hc).1, ?_, ?_⟩
    · rw [hh, filter_sig fun c h => (ws_facts h).isHangul]
    · simp [sig, (start_facts hs).2.isWs, (end_facts he).2.isWs, List.filter_append]

theorem IsRendering.sig_ok {c : SCmd} {t : List Char} (h : IsRendering c t) : IsRendering c (sig t) := by
  obtain ⟨w, tail, rfl, hw, htail, hd, ha⟩ := h
  exact ⟨sig w, sig tail, sig_append w tail, hw.sig_ok, htail.sig, (dotsC_sig _).trans hd, (areaC_sig _).trans ha⟩

theorem Rend.sig_ok {cs : List SCmd} {t : List Char} (h : Rend cs t) : Rend cs (sig t) := by
  induction h with
  | nil => exact .nil
  | cons hr _ ih => rw [sig_append]; exact .cons hr.sig_ok ih

theorem parse_rend (cs : List SCmd) (pre body : List Char) (hp : TailOk pre) (h : Rend cs body) :
    (parse (pre ++ body)).map PCmd.strip = cs := by
  rw [parse_strip, sig_append, List.length_append, Nat.add_comm (sig pre).length, Nat.add_right_comm,
    cmdsC_garbage _ hp.sig]
  exact cmdsC_rend h.sig_ok _ (Nat.le_succ _)

/-! ### the reported source texts are renderings -/

/-- dots, then area characters: the tail of the reported source text and of the canonical rendering -/
theorem dots_area_tail {ds as : List Char} (hd : ∀ c ∈ ds, (dotW c).isSome = true) (ha : ∀ c ∈ as, isAreaCh c = true) :
    TailOk (ds ++ as) ∧ dotsC (ds ++ as) = (ds.map (fun c => (dotW c).getD 0)).sum ∧
      areaC (ds ++ as) = areaOf (as.filterMap tokOf) := by
  have hd' : ∀ c ∈ ds, tokOf c = none := fun c hc =>
    let ⟨_, hw⟩ := Option.isSome_iff_exists.mp (hd c hc); (dot_facts hw).tokOf
  refine ⟨fun c hc => ?_, ?_, ?_⟩
  · rcases List.mem_append.mp hc with h | h
    · obtain ⟨w, hw⟩ := Option.isSome_iff_exists.mp (hd c h)
      exact ⟨(dot_facts hw).cmd1Idx, (dot_facts hw).startIdx⟩
    · obtain ⟨t, ht⟩ := Option.isSome_iff_exists.mp (ha c h)
      exact ⟨(tok_facts ht).2.cmd1Idx, (tok_facts ht).2.startIdx⟩
  · have htw : (ds ++ as).takeWhile (fun c => !isAreaCh c) = ds := by
      rw [List.takeWhile_append_of_pos fun c hc => by simp [isAreaCh, hd' c hc]]
      cases as with
      | nil => simp
      | cons a as => simp [ha a (by simp)]
    rw [dotsC, htw, List.filter_eq_self.mpr hd]
  · rw [areaC, List.filterMap_append, List.filterMap_eq_nil_iff.mpr hd', List.nil_append]

theorem filterMap_filter_isSome {α β : Type} (f : α → Option β) (l : List α) :
    (l.filter (fun a => (f a).isSome)).filterMap f = l.filterMap f := by
  rw [List.filterMap_filter]
  congr 1; funext a
  cases f a <;> rfl

theorem rawTail_ok (u : List PC) :
    TailOk ((preDots u).map (·.c) ++ areaChs u) ∧
    dotsC ((preDots u).map (·.c) ++ areaChs u) = dotsOf u ∧
    areaC ((preDots u).map (·.c) ++ areaChs u) = areaOf (toksOf u) := by
  have h := dots_area_tail (ds := (preDots u).map (·.c)) (as := areaChs u)
    (by simp only [preDots, List.mem_map, List.mem_filter]; rintro c ⟨q, ⟨-, hq⟩, rfl⟩; exact hq)
    (by simp only [areaChs, List.mem_map, List.mem_filter]; rintro c ⟨q, ⟨-, hq⟩, rfl⟩; exact hq)
  refine ⟨h.1, by rw [h.2.1, dotsOf, List.map_map]; rfl, ?_⟩
  rw [h.2.2, areaChs, toksOf, List.filterMap_map]
  exact congrArg areaOf (filterMap_filter_isSome _ u)

theorem mkCmd_rend {kind hangul : Nat} {hr : List Char} (hw : IsWord kind hangul hr) (p : PC) (u : List PC) :
    IsRendering (mkCmd kind hangul hr p u).strip (mkCmd kind hangul hr p u).raw :=
  ⟨hr, _, List.append_assoc .., hw, rawTail_ok u⟩

theorem cmds_rend (f : Nat) (ps : List PC) : Rend ((cmds f ps).map PCmd.strip) ((cmds f ps).map (·.raw)).flatten := by
  fun_induction cmds f ps with
  | case1 | case2 => exact .nil  -- no fuel, no text
  | case3 f p ps k hk r ih => exact .cons (mkCmd_rend (Or.inl ⟨rfl, p.c, hk, rfl⟩) p r.1) ih  -- one-syllable command
  | case4 f p ps hk k hs hl sy hsv r ih =>  -- start syllable, end syllable later
    refine .cons (mkCmd_rend (Or.inr ?_) p r.1) ih
    -- the word is the start syllable, the Hangul syllables of the filler and the end syllable
    obtain ⟨pre, e, rest, kind, rfl, hsy, he, hpre⟩ := syllSpan_spec k ps hl
    have hfilt : hsv = hangulOf pre ++ [e] := by
      rw [← hangulOf_snoc_end he]; exact congrArg (fun x => hangulOf x.1) hsy
    refine ⟨p.c, k, (hangulOf pre).map (·.c), e.c, hs, (congrArg (·.2.1) hsy) ▸ he, ?_, ?_, by simp [hfilt]⟩
    · intro c hc kk kd hce e'
      obtain ⟨q, hq, rfl⟩ := List.mem_map.mp hc
      exact Bool.false_ne_true ((hpre q (List.mem_filter.mp hq).1).symm.trans (isEndOf_iff.mpr ⟨kd, e' ▸ hce⟩))
    · simp [hfilt, hangulOf, List.filter_map, List.filter_filter, Function.comp_def]
      omega
  | case5 | case6 => assumption  -- skipped characters

theorem parse_raw_rend (s : List Char) : Rend ((parse s).map PCmd.strip) ((parse s).map (·.raw)).flatten := by
  rw [parse_eq_spec]; exact cmds_rend _ _

/-- C08, second clause: re-parsing the reported source texts returns the same commands. -/
theorem reparse_raw (s : List Char) :
    (parse ((parse s).map (·.raw)).flatten).map PCmd.strip = (parse s).map PCmd.strip := by
  simpa using parse_rend _ [] _ (fun x hx => by cases hx) (parse_raw_rend s)

/-! ### the canonical rendering -/

/-- the class of the end syllable that selects `kind` (`endTable`) -/
def classOf (kind : Nat) : Nat := if kind = 0 then 0 else if kind ≤ 2 then 1 else 2

/-- the canonical command word -/
def renderWord (kind hangul : Nat) : List Char :=
  if hangul ≤ 1 then [cmdChars.getD kind ' ']
  else [startChars.getD (classOf kind) ' '] ++ List.replicate (hangul - 2) '어' ++ [(endTable.getD kind (' ', 0, 0)).1]

/-- the canonical rendering of `c`, its area written `areaTxt` -/
def render (c : SCmd) (areaTxt : List Char) : List Char :=
  renderWord c.kind c.hangul ++ List.replicate c.dots '.' ++ areaTxt

theorem renderWord_isWord : ∀ kind, kind < 6 → ∀ hangul, 1 ≤ hangul → IsWord kind hangul (renderWord kind hangul) := by
  intro kind hk hangul hh
  unfold renderWord
  by_cases h1 : hangul ≤ 1
  · have facts : ∀ k, k < 6 → cmd1Idx (cmdChars.getD k ' ') = some k := by decide +kernel
    rw [if_pos h1]
    exact Or.inl ⟨Nat.le_antisymm h1 hh, _, facts kind hk, rfl⟩
  · have facts : ∀ k, k < 6 → startIdx (startChars.getD (classOf k) ' ') = some (classOf k) ∧
        endInfo (endTable.getD k (' ', 0, 0)).1 = some (classOf k, k) := by decide +kernel
    have hfill : endInfo '어' = none ∧ isHangul '어' = true := by decide +kernel
    rw [if_neg h1]
    refine Or.inr ⟨_, classOf kind, List.replicate (hangul - 2) '어', _, (facts kind hk).1, (facts kind hk).2, ?_, ?_, rfl⟩
    · intro c hc kk kd he
      rw [(List.mem_replicate.mp hc).2, hfill.1] at he
      cases he
    · rw [List.filter_eq_self.mpr fun c hc => by rw [(List.mem_replicate.mp hc).2]; exact hfill.2, List.length_replicate]
      exact (Nat.add_sub_of_le (Nat.lt_of_not_le h1)).symm

theorem render_isRendering (c : SCmd) (hk : c.kind < 6) (hh : 1 ≤ c.hangul) (areaTxt : List Char)
    (hall : ∀ x ∈ areaTxt, isAreaCh x = true) (ha : areaC areaTxt = c.area) : IsRendering c (render c areaTxt) := by
  have h := dots_area_tail (ds := List.replicate c.dots '.') (as := areaTxt)
    (fun x hx => by rw [(List.mem_replicate.mp hx).2]; decide) hall
  refine ⟨renderWord c.kind c.hangul, List.replicate c.dots '.' ++ areaTxt, by simp [render], renderWord_isWord _ hk _ hh,
    h.1, ?_, h.2.2.trans ha⟩
  rw [h.2.1, List.map_replicate]
  simp [show (dotW '.').getD 0 = 1 by decide]

end HyP
