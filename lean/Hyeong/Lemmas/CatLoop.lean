import Hyeong.Lemmas.CopyView
import Hyeong.Spec.Programs
/-!
# C14: the loop-until-end-of-input copier `cat`

`형`, then a read (`흑 하앙... 흑... 항....`: 0 + next character onto stack 3, and a peek that is thrown away), then the
loop: print (index 5, labelled), read again (6–9), test (10–15: `x·0 + 1` is 1 for a character and NaN for NaN; `?`/`!`
compare it with 1 and jump back to the label or fall off the end).
At the print command stack 3 is `[x, 0]` with `x` the number of the character to print, the input still to come is seen
on stack 0, and the label is unregistered or points to 5.
-/
namespace HyE
open HyN

-- `f_…`: the arithmetic of `cat`'s constants over the model numbers (`NumI`)

theorem f_push0 : NumOps.mul (NumOps.ofNat 1) (NumOps.ofNat 0) = (HyN.zero : NumI) := by decide
theorem f_push1 : NumOps.mul (NumOps.ofNat 1) (NumOps.ofNat 1) = (HyN.one : NumI) := by decide
theorem f_move_nan : HyN.add HyN.zero HyN.nan = HyN.nan := by decide
theorem f_cmp_one : NumOps.cmp (HyN.one : NumI) (NumOps.ofNat 1) = some .eq := by decide
theorem f_cmp_nan : NumOps.cmp (HyN.nan : NumI) (NumOps.ofNat 1) = none := by decide
theorem zero_isNan : NumOps.isNan (HyN.zero : NumI) = false := by decide
theorem one_isNan : NumOps.isNan (HyN.one : NumI) = false := by decide

/-- `0 + 0 + x` is what a read leaves on stack 3 -/
theorem f_read (rem : List Char) : [HyN.zero, nextNum rem].foldl HyN.add HyN.zero = nextNum rem := by
  cases rem with
  | nil => decide
  | cons c _ => exact (congrArg (HyN.add · (charNum c)) (by decide : HyN.add HyN.zero HyN.zero = HyN.zero)).trans (add_zero_charNum c)

/-- the value the test looks at: `1·0·x + 1` -/
def testNum (x : NumI) : NumI := [HyN.one, [HyN.zero, x].foldl HyN.mul HyN.one].foldl HyN.add HyN.zero

theorem testNum_char (c : Char) : testNum (charNum c) = HyN.one := by
  simp only [testNum, List.foldl_cons, List.foldl_nil]
  rw [show HyN.mul HyN.one HyN.zero = HyN.zero by decide, zero_mul (charNum_isNan c)]
  decide

theorem testNum_nan : testNum HyN.nan = HyN.nan := by decide

section
variable {c0 : Cfg NumI} {n : Nat} {rem : List Char} {out : List Char} {pts : List (Nat × Nat)}

/-- the read segment (indices 1–4 and 6–9) -/
theorem cat_read (L : Nat) (hL : L = 1 ∨ L = 6) (h : At cat c0 n L ⟨3, [], rem, [HyN.zero], out, pts⟩) :
    At cat c0 (n + 4) (L + 4) ⟨3, [], rem.tail, [nextNum rem, HyN.zero], out, pts⟩ := by
  have hp : cat[L]? = some ⟨5, 1, 0, 0, .nil⟩ ∧ cat[L + 1]? = some ⟨1, 2, 3, 6, .nil⟩ ∧ cat[L + 2]? = some ⟨5, 1, 3, 3, .nil⟩ ∧
      cat[L + 3]? = some ⟨1, 1, 4, 4, .nil⟩ := by rcases hL with h | h <;> subst h <;> exact ⟨rfl, rfl, rfl, rfl⟩
  -- `흑`: the 0 goes onto stack 0 as well, which is selected
  have h1 := h.step hp.1 rfl (.sel rfl rfl Pop.st3 (.st0 zero_isNan) (.st3 (.inr zero_isNan)))
  -- `하앙...`: 0 + the next character, onto stack 3
  have h2 := h1.step hp.2.1 rfl (.add rfl rfl (.cons Pop.pre (.cons Pop.input .nil)) (f_read rem) .onto)
  -- `흑...`: a peek at the character after it; `항....` throws the copy away
  have h3 := h2.step hp.2.2.1 rfl (.sel rfl rfl Pop.input .onto Push.back)
  exact h3.step hp.2.2.2 rfl (.add rfl rfl (.cons Pop.st3 .nil) rfl (.dump (by decide)))

/-- the print command: writes the top of stack 3, registers its label or meets it, goes on -/
theorem cat_print {x : NumI} {cs : List Char} (hx : NumOps.render (HyN.add HyN.zero x) = .text cs)
    (h : At cat c0 n 5 ⟨3, [], rem, [x, HyN.zero], out, pts⟩) (hpt : ∀ v, lookup pts 18 = some v → v = 5) :
    ∃ pts', At cat c0 (n + 1) 6 ⟨3, [], rem, [HyN.zero], out ++ cs, pts'⟩ ∧ lookup pts' 18 = some 5 := by
  obtain ⟨m, e, v⟩ := h
  have hp : cat[5]? = some ⟨1, 1, 1, 1, .val 2 .nil .nil⟩ := rfl
  obtain ⟨⟨s1, w1⟩, e1, v1⟩ := Exec.add (c := ⟨1, 1, 1, 1, .val 2 .nil .nil⟩) (xs := [x]) rfl rfl (.cons Pop.st3 .nil) rfl (.out hx) m v
  obtain ⟨pts', ej, hl⟩ := jump_own_label (s := s1) (c := ⟨1, 1, 1, 1, .val 2 .nil .nil⟩) (loc := 5) (t := 2) (by decide) (by decide)
    (by rw [show s1.points = pts from v1.pts]; exact hpt)
  have es := step_of hp e1 (area_heart (by decide) (by decide))
  rw [show jump (s1, w1).1 _ 5 2 = _ from ej] at es
  exact ⟨pts', ⟨_, iterOk_snoc e (show 5 < cat.length by decide) es,
    v1.frame rfl v1.st3 v1.cur rfl⟩, hl⟩

/-- the test segment up to its last command (indices 10–14): `x` is doubled, the copy becomes `x·0 + 1` -/
theorem cat_test {x : NumI} (h : At cat c0 n 10 ⟨3, [], rem, [x, HyN.zero], out, pts⟩) :
    At cat c0 (n + 5) 15 ⟨3, [], rem, [testNum x, x, HyN.zero], out, pts⟩ := by
  have h1 := h.step (loc := 10) rfl rfl (.sel rfl rfl Pop.st3 .onto .onto)
  have h2 := h1.step (loc := 11) rfl rfl (.push rfl f_push0 .onto)
  have h3 := h2.step (loc := 12) rfl rfl (.mul rfl rfl (.cons Pop.st3 (.cons Pop.st3 .nil)) rfl .onto)
  have h4 := h3.step (loc := 13) rfl rfl (.push rfl f_push1 .onto)
  exact h4.step (loc := 14) rfl rfl (.add rfl rfl (.cons Pop.st3 (.cons Pop.st3 .nil)) rfl .onto)

/-- the last command of the test: a 1 on top (a character was read) sends the run back to the print command, NaN (end of
input) lets it fall off the end of the program -/
theorem cat_branch {t x : NumI} (h : At cat c0 n 15 ⟨3, [], rem, [t, x, HyN.zero], out, pts⟩) (hpt : lookup pts 18 = some 5) :
    (t = HyN.one → At cat c0 (n + 1) 5 ⟨3, [], rem, [x, HyN.zero], out, pts⟩) ∧
    (t = HyN.nan → At cat c0 (n + 1) 16 ⟨3, [], rem, [x, HyN.zero], out, pts⟩) := by
  -- the command pushes 1; `?` pops it again (1 is not below 1: to the right); `!` pops `t` and compares it with 1
  have hp : cat[15]? = some ⟨0, 1, 1, 1, .val 0 .nil (.val 1 (.val 2 .nil .nil) .nil)⟩ := rfl
  have hs : ∀ m, View ⟨3, [], rem, [t, x, HyN.zero], out, pts⟩ m → ∃ m1 m3, execCmd m ⟨0, 1, 1, 1, .val 0 .nil (.val 1 (.val 2 .nil .nil) .nil)⟩ = .ok m1 ∧
      areaCalc m1 1 (.val 0 .nil (.val 1 (.val 2 .nil .nil) .nil)) =
        areaCalc m3 1 (if NumOps.cmp t (NumOps.ofNat 1 : NumI) = some .eq then .val 2 .nil .nil else .nil) ∧
      View ⟨3, [], rem, [x, HyN.zero], out, pts⟩ m3 := by
    intro m v
    obtain ⟨m1, e1, v1⟩ := Exec.push (c := ⟨0, 1, 1, 1, _⟩) rfl f_push1 (.st3 (.inr one_isNan)) m v
    obtain ⟨m2, e2, v2⟩ := v1.popCur Pop.st3
    obtain ⟨m3, e3, v3⟩ := v2.popCur Pop.st3
    exact ⟨m1, m3, e1, by rw [area_question e2, f_cmp_one, if_neg (by decide), area_bang e3], v3⟩
  constructor
  · intro ht
    refine h.next (fun m v => ?_) (by decide)
    obtain ⟨m1, ⟨s3, w3⟩, e1, ea, v3⟩ := hs m v
    rw [ht, f_cmp_one, if_pos rfl, area_heart (t := 2) (by decide) (by decide)] at ea
    have es := step_of hp e1 ea
    rw [jump_to (v := 5) (by decide) (by decide) (by rw [show s3.points = pts from v3.pts]; exact hpt), if_pos (by decide)] at es
    exact ⟨_, es, v3.frame rfl v3.st3 v3.cur v3.pts⟩
  · intro ht
    refine h.next (fun m v => ?_) (by decide)
    obtain ⟨m1, m3, e1, ea, v3⟩ := hs m v
    rw [ht, f_cmp_nan, if_neg (by decide)] at ea
    exact ⟨m3, step_of hp e1 ea, v3⟩

/-- from the print command to the last command of the test -/
theorem cat_body {x : NumI} {cs : List Char} (hx : NumOps.render (HyN.add HyN.zero x) = .text cs)
    (h : At cat c0 n 5 ⟨3, [], rem, [x, HyN.zero], out, pts⟩) (hpt : ∀ v, lookup pts 18 = some v → v = 5) :
    ∃ pts', At cat c0 (n + 1 + 4 + 5) 15 ⟨3, [], rem.tail, [testNum (nextNum rem), nextNum rem, HyN.zero], out ++ cs, pts'⟩ ∧
      lookup pts' 18 = some 5 := by
  obtain ⟨pts', h1, hl⟩ := cat_print hx h hpt
  exact ⟨pts', cat_test (cat_read 6 (.inr rfl) h1), hl⟩

theorem cat_loop : ∀ (post : List Char) {n : Nat} {ch : Char} {out : List Char} {pts : List (Nat × Nat)},
    At cat c0 n 5 ⟨3, [], post, [charNum ch, HyN.zero], out, pts⟩ → (∀ v, lookup pts 18 = some v → v = 5) →
    ∃ n' pts', At cat c0 n' 16 ⟨3, [], [], [HyN.nan, HyN.zero], out ++ ch :: post, pts'⟩
  | [], _, ch, _, _, h, hpt => by
    obtain ⟨pts', h1, hl⟩ := cat_body (render_add_charNum ch) h hpt
    exact ⟨_, pts', (cat_branch h1 hl).2 testNum_nan⟩
  | c :: post, _, ch, out, _, h, hpt => by
    obtain ⟨pts', h1, hl⟩ := cat_body (render_add_charNum ch) h hpt
    obtain ⟨n', pts'', h2⟩ := cat_loop post ((cat_branch h1 hl).1 (testNum_char c)) (fun v hv => Option.some.inj (hl.symm.trans hv) ▸ rfl)
    exact ⟨n', pts'', by rwa [List.append_assoc] at h2⟩

/-- the way to the print command: `형` and a first read -/
theorem cat_start (input : List Char) :
    At cat (initCfg input) (0 + 1 + 4) 5 ⟨3, [], input.tail, [nextNum input, HyN.zero], [], []⟩ :=
  cat_read 1 (.inl rfl) ((At.start cat input).step (loc := 0) rfl rfl (.push rfl f_push0 (.st3 (.inr zero_isNan))))

end

theorem cat_correct (input : List Char) (hne : input ≠ []) :
    ∃ n, (runN cat n (initCfg input)).2 = .ended ∧ (runN cat n (initCfg input)).1.m.2.out = input ∧
      (runN cat n (initCfg input)).1.m.2.err = [] := by
  cases input with
  | nil => exact absurd rfl hne
  | cons c0 rest =>
    obtain ⟨n, pts, h⟩ := cat_loop rest (cat_start (c0 :: rest)) (fun v hv => by cases hv)
    exact h.copies

/-- the first pass through the print command comes before the first test: on the empty input `cat` writes the NaN text -/
theorem cat_empty : ∃ n, (runN cat n (initCfg [])).2 = .ended ∧ (runN cat n (initCfg [])).1.m.2.out = nanText ∧
    (runN cat n (initCfg [])).1.m.2.err = [] := by
  obtain ⟨pts', h1, hl⟩ := cat_body (x := HyN.nan) (cs := nanText) (by decide) (cat_start []) (fun v hv => by cases hv)
  have h2 := (cat_branch h1 hl).2 testNum_nan
  exact h2.copies

end HyE
