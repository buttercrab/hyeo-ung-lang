import Hyeong.Lemmas.Level1Basic
import Hyeong.Model.Optimize
/-!
# level 1: `dotMap` is a good renumbering

The stacks a program can select (`liveList`: the start stack and every switch target, above 3) get slots of their own, so
`dotMap (liveList p)` is a `GoodMap` for them and `optimize1 p` is `p` renumbered by it (`progRel_optimize1`).
-/
namespace HyE

theorem mem_insertSorted (x y : Nat) (l : List Nat) : y ∈ insertSorted x l ↔ y = x ∨ y ∈ l := by
  induction l with
  | nil => simp [insertSorted]
  | cons z zs ih =>
    unfold insertSorted
    split
    · exact List.mem_cons
    · split
      · rename_i h
        rw [h, List.mem_cons, or_self_left]
      · rw [List.mem_cons, ih, List.mem_cons]
        exact or_left_comm

theorem mem_liveList (p : List Cmd) (x : Nat) : x ∈ liveList p ↔ x ∈ chkList p 3 ∧ x > 3 := by
  unfold liveList
  have : ∀ l : List Nat, x ∈ l.foldr insertSorted [] ↔ x ∈ l := by
    intro l
    induction l with
    | nil => simp
    | cons y ys ih => simp [mem_insertSorted, ih]
  rw [this]; simp

def liveP (L : List Nat) (i : Nat) : Prop := i ≤ 3 ∨ i ∈ L

theorem dotMap_low {L : List Nat} {i : Nat} (h : i ≤ 3) : dotMap L i = i := by
  simp only [dotMap, h, ↓reduceIte]

theorem dotMap_live {L : List Nat} {i : Nat} (h : liveP L i) (h3 : ¬ i ≤ 3) :
    ∃ k, ∃ hk : k < L.length, L[k] = i ∧ dotMap L i = 4 + k := by
  have hm : i ∈ L := h.resolve_left h3
  cases hk : L.idxOf? i with
  | none => exact absurd hm (List.idxOf?_eq_none_iff.mp hk)
  | some k =>
    obtain ⟨hlt, e, _⟩ := List.idxOf?_eq_some_iff.mp hk
    exact ⟨k, hlt, e, by simp only [dotMap, h3, ↓reduceIte, hk]⟩

theorem dotMap_dead {L : List Nat} {i : Nat} (h : ¬ liveP L i) : dotMap L i = 4 + L.length := by
  have h3 : ¬ i ≤ 3 := fun x => h (Or.inl x)
  have hm : i ∉ L := fun x => h (Or.inr x)
  simp only [dotMap, h3, ↓reduceIte, List.idxOf?_eq_none_iff.mpr hm]

theorem dotMap_high {L : List Nat} {i : Nat} (h3 : ¬ i ≤ 3) : 4 ≤ dotMap L i := by
  unfold dotMap
  rw [if_neg h3]
  cases L.idxOf? i <;> exact Nat.le_add_right 4 _

/-- the slots of the live stacks lie below the shared one -/
theorem dotMap_live_lt {L : List Nat} {i : Nat} (h : liveP L i) : dotMap L i < 4 + L.length := by
  by_cases i3 : i ≤ 3
  · rw [dotMap_low i3]
    exact Nat.lt_of_le_of_lt i3 (Nat.lt_add_right L.length (by decide))
  · obtain ⟨k, hlt, _, hk⟩ := dotMap_live h i3
    exact hk ▸ Nat.add_lt_add_left hlt 4

/-- `4 + L.length + 1` is the size of the stack vector -/
theorem dotMap_lt (L : List Nat) (i : Nat) : dotMap L i < 4 + L.length + 1 := by
  by_cases hl : liveP L i
  · exact Nat.lt_succ_of_lt (dotMap_live_lt hl)
  · rw [dotMap_dead hl]
    exact Nat.lt_succ_self _

theorem goodMap (L : List Nat) : GoodMap (dotMap L) (liveP L) where
  inj := by
    intro i j hi hj h
    by_cases i3 : i ≤ 3 <;> by_cases j3 : j ≤ 3
    · rwa [dotMap_low i3, dotMap_low j3] at h
    · rw [dotMap_low i3] at h
      exact absurd (Nat.le_trans (h ▸ dotMap_high j3) i3) (by decide)
    · rw [dotMap_low j3] at h
      exact absurd (Nat.le_trans (h ▸ dotMap_high i3) j3) (by decide)
    · obtain ⟨k, _, ei, hk⟩ := dotMap_live hi i3
      obtain ⟨k', _, ej, hk'⟩ := dotMap_live hj j3
      rw [hk, hk'] at h
      obtain rfl : k = k' := Nat.add_left_cancel h
      exact ei.symm.trans ej
  fix0 := dotMap_low (by decide)
  fix1 := dotMap_low (by decide)
  fix2 := dotMap_low (by decide)
  live0 := Or.inl (by decide)
  live1 := Or.inl (by decide)
  live2 := Or.inl (by decide)
  sep := by
    intro i j hi hj
    rw [dotMap_dead hj]
    exact Nat.ne_of_lt (dotMap_live_lt hi)
  io := by
    intro i h
    by_cases i3 : i ≤ 3
    · exact (dotMap_low i3).symm
    · exact absurd (Nat.le_trans (dotMap_high i3) h) (by decide)

theorem chkList_switch (p : List Cmd) : ∀ (now : Nat) (c : Cmd), c ∈ p → c.kind = 5 → c.dots ∈ chkList p now := by
  induction p with
  | nil => intro now c h; cases h
  | cons d ds ih =>
    intro now c hc hk
    simp only [chkList]
    rcases List.mem_cons.mp hc with e | e
    · subst e
      simp [hk]
    · split
      · exact ih _ c e hk
      · split
        · exact .tail _ (.tail _ (ih _ c e hk))
        · exact .tail _ (ih _ c e hk)

theorem chkList_start (p : List Cmd) (now : Nat) (h : ∃ c ∈ p, c.kind ≠ 0) : now ∈ chkList p now := by
  induction p with
  | nil => obtain ⟨c, hc, _⟩ := h; cases hc
  | cons d ds ih =>
    simp only [chkList]
    split
    · rename_i hk
      obtain ⟨c, hc, hne⟩ := h
      rcases List.mem_cons.mp hc with e | e
      · subst e; exact absurd hk hne
      · exact ih ⟨c, e, hne⟩
    · split <;> simp

theorem switch_live (p : List Cmd) {c : Cmd} (hc : c ∈ p) (hk : c.kind = 5) : liveP (liveList p) c.dots := by
  by_cases d3 : c.dots ≤ 3
  · exact .inl d3
  · exact .inr ((mem_liveList p _).mpr ⟨chkList_switch p 3 c hc hk, by omega⟩)

theorem renum_cmdRel (p : List Cmd) (hk : ∀ c ∈ p, c.kind ≤ 5) (c : Cmd) (hc : c ∈ p) :
    CmdRel (dotMap (liveList p)) (liveP (liveList p)) c (renumCmd (liveList p) c) := by
  have hl : 5 ≤ c.kind → liveP (liveList p) c.dots := fun h5 => switch_live p hc (Nat.le_antisymm (hk c hc) h5)
  unfold renumCmd
  split
  · rename_i h
    exact ⟨rfl, rfl, rfl, rfl, fun _ => rfl, fun hne => (dotMap_low (h.resolve_left hne)).symm, hl⟩
  · rename_i h
    exact ⟨rfl, rfl, rfl, rfl, fun e => absurd (Or.inl e) h, fun _ => rfl, hl⟩

theorem progRel_optimize1 (p : List Cmd) (hk : ∀ c ∈ p, c.kind ≤ 5) :
    ProgI (LiveAt (dotMap (liveList p)) (liveP (liveList p))) (fun i i' => i' = dotMap (liveList p) i) p (optimize1 p).1 := by
  refine ⟨List.length_map _, fun i => ?_⟩
  show Option.Rel _ p[i]? (p.map _)[i]?
  rw [List.getElem?_map]
  cases h1 : p[i]? with
  | none => exact .none
  | some c => exact .some (renum_cmdRel p hk c (List.mem_of_getElem? h1)).cmdI

/-- every stack index the level-1 code can touch is below the size of the stack vector, so the bounds checks of `OptState`
never fire -/
theorem renumber_lt_size (p : List Cmd) : ∀ c ∈ (optimize1 p).1, c.kind ≠ 0 → c.dots < (optimize1 p).2 := by
  intro c hc hne
  obtain ⟨d, _, rfl⟩ := List.mem_map.mp hc
  show (renumCmd (liveList p) d).dots < 4 + (liveList p).length + 1
  unfold renumCmd at hne ⊢
  by_cases h : d.kind = 0 ∨ d.dots ≤ 3
  · rw [if_pos h] at hne ⊢
    omega
  · rw [if_neg h]
    exact dotMap_lt _ _

end HyE
