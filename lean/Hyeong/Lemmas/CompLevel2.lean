import Hyeong.Lemmas.CompInv
import Hyeong.Lemmas.CompNE
import Hyeong.Lemmas.Level2Prefix
/-!
# level 2: the restore lines read back the state `optimize` returned (`restore_ok`); `InvLt`
-/
namespace HyC
open HyE HyN

/-- the stack texts `build_source` writes for the state `s` -/
def stackTexts (size : Nat) (s : St NumI) : List (Nat × List (List Char)) :=
  (List.range size).filterMap (fun i =>
      let v := s.stacks i
      if v = [] then none else some (i, v.reverse.map HyN.display))

theorem lr_valid {a b : List NumI} (h : LR NE a b) : ∀ n ∈ a, Valid n := by
  induction h with
  | nil => exact nofun
  | cons hr _ ih =>
    obtain ⟨q, h1, _⟩ := hr
    exact List.forall_mem_cons.mpr ⟨h1.1, ih⟩

theorem lr_restore : ∀ (l : List NumI), (∀ n ∈ l, Valid n) →
    LR NE (l.map (fun n => (fromString (display n)).getD nan)) l := by
  intro l
  induction l with
  | nil => intro _; exact .nil
  | cons x xs ih =>
    intro h
    obtain ⟨n', h1, h2⟩ := ne_restore x (h x List.mem_cons_self)
    simp only [List.map_cons, h1, Option.getD_some]
    exact .cons h2 (ih (fun n hn => h n (List.mem_cons_of_mem _ hn)))

theorem restore_ok (size : Nat) (s : St NumI) (hs : Supp size s) (hv : ∀ i, LR NE (s.stacks i) (s.stacks i))
    (cur : Nat) (last : Option Nat) (pts : List (Nat × Nat)) (start : Nat) :
    let r : Restore := ⟨stackTexts size s, cur, last, pts, start⟩
    r.parses = true ∧ ∀ i, LR NE (r.stackAt i) (s.stacks i) := by
  intro r
  constructor
  · simp only [r, Restore.parses, stackTexts, List.all_eq_true, List.mem_filterMap, List.mem_range]
    intro x ⟨i, _, hx⟩ t ht
    split at hx
    · cases hx
    · cases hx
      obtain ⟨n, hn, rfl⟩ := List.mem_map.mp ht
      obtain ⟨n', h1, _⟩ := ne_restore n (lr_valid (hv i) n (List.mem_reverse.mp hn))
      rw [h1]; rfl
  · intro i
    show LR NE (match (stackTexts size s).find? (fun x => x.1 == i) with
      | some x => (x.2.map (fun t => (fromString t).getD nan)).reverse
      | none => []) _
    cases hf : (stackTexts size s).find? (fun x => x.1 == i) with
    | none =>
      -- no texts for stack `i`: it is empty, being outside the vector or skipped
      have he : s.stacks i = [] := Classical.byContradiction fun hne =>
        List.find?_eq_none.mp hf (i, _)
          (List.mem_filterMap.mpr ⟨i, List.mem_range.mpr (Nat.lt_of_not_le fun h => hne (hs.2 i h)), if_neg hne⟩) (beq_self_eq_true i)
      rw [he]; exact .nil
    | some x =>
      obtain ⟨j, _, hx⟩ := List.mem_filterMap.mp (List.mem_of_find?_eq_some hf)
      have hj := List.find?_some hf
      dsimp only at hx
      split at hx
      · cases hx
      · cases hx
        cases beq_iff_eq.mp hj
        simp only [List.map_map, List.map_reverse, List.reverse_reverse]
        exact lr_restore _ (lr_valid (hv j))

/-- labels and return target lie before the first residual command `k` -/
def InvLt (k : Nat) (s : St NumI) : Prop := (∀ x ∈ s.points, x.2 < k) ∧ (∀ l, s.latest = some l → l < k)

theorem optimize2Loop_lt (budget : Nat) (p : List Cmd) : ∀ (n k : Nat) (m : M NumI) (r : Opt2 NumI),
    InvLt k m.1 → k ≤ p.length → optimize2Loop budget p n k m = .ok r → InvLt r.idx r.m.1 ∧ r.idx ≤ p.length := by
  intro n k m r hinv hkp h
  have := optimize2Loop_inv budget p (fun k m => InvLt k m.1 ∧ k ≤ p.length)
    (fun k m m' hk hi ho => by
      have := optLoop_trace budget hk (optFuel budget k) 0 (Targets.mono (Q := (· < k)) hi.1 fun _ => Nat.le_of_lt) (Nat.le_succ k)
      rw [ho] at this
      obtain ⟨_, _, hi'⟩ := this
      exact ⟨Targets.mono (Q := (· ≤ k)) hi' fun _ => Nat.lt_succ_of_le, hk⟩)
    n k m ⟨hinv, hkp⟩
  rw [h] at this
  exact this

end HyC
