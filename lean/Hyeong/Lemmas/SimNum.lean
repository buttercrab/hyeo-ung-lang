import Hyeong.Lemmas.SimBasic
import Hyeong.Lemmas.NumProof
import Hyeong.Model.ExecNum
import Hyeong.Spec.Lang
/-!
The numbers of `num.rs` (`NumI`) against the values `V` of the language definition: `RN a q` says `a` stands for `q`,
and every operation respects it (`numSim`).
-/
namespace HyE
open HyN

/-- a model number represents a value of the language: canonical rational or NaN -/
def RN (a : NumI) (q : V) : Prop := Valid a ∧ toRat a = q

theorem RN.canon {a : NumI} (h : Canon a) : RN a (some (Rat.divInt a.up a.down)) := ⟨Or.inl h, toRat_canon h⟩

theorem RN.exact {a : NumI} {p : Rat} (h : Canon a ∧ toRat a = some p) : RN a (some p) := ⟨Or.inl h.1, h.2⟩

theorem rn_some {a : NumI} {p : Rat} : RN a (some p) ↔ a = ofRat p := by
  rw [← exact_iff]
  constructor
  · rintro ⟨hc | h0, e⟩
    · exact ⟨hc, e⟩
    · rw [toRat, if_pos h0] at e; cases e
  · exact RN.exact

/-- a number has one representation (`rn_some`), NaN has many: any zero denominator -/
theorem rn_none {a : NumI} : RN a none ↔ isNan a = true := by
  constructor
  · rintro ⟨_, e⟩
    refine decide_eq_true (Decidable.by_contra fun h => ?_)
    rw [toRat_of_ne h] at e; cases e
  · exact fun h => ⟨Or.inr (of_decide_eq_true h), if_pos (of_decide_eq_true h)⟩

theorem rn_lift₂ {f : NumI → NumI → NumI} {g : Rat → Rat → Rat}
    (hl : ∀ {a} b, isNan a = true → f a b = nan) (hr : ∀ a {b}, isNan b = true → f a b = nan)
    (he : ∀ p s, f (ofRat p) (ofRat s) = ofRat (g p s))
    {a x : NumI} {q r : V} (h1 : RN a q) (h2 : RN x r) : RN (f a x) (do let p ← q; let s ← r; pure (g p s)) := by
  cases q with
  | none => rw [hl x (rn_none.mp h1)]; exact rn_none.mpr rfl
  | some p =>
    cases r with
    | none => rw [hr a (rn_none.mp h2)]; exact rn_none.mpr rfl
    | some s =>
      rw [rn_some.mp h1, rn_some.mp h2, he]
      exact rn_some.mpr rfl

theorem rn_neg {a : NumI} {q : V} (h : RN a q) : RN (HyN.neg a) (q.map (fun p => -p)) := by
  cases q with
  | none => exact rn_none.mpr (neg_nan (rn_none.mp h))
  | some p => rw [rn_some.mp h]; exact rn_some.mpr (neg_ofRat p)

theorem rn_inv {a : NumI} {q : V} (h : RN a q) :
    RN (HyN.flip a) (q.bind (fun p => if p = 0 then none else some p⁻¹)) := by
  cases q with
  | none => rw [flip_nan (rn_none.mp h)]; exact h
  | some p =>
    rw [rn_some.mp h]
    show RN _ (if p = 0 then none else some p⁻¹)
    by_cases h0 : p = 0
    · rw [if_pos h0]; exact rn_none.mpr (flip_zero_nan _ (Rat.num_eq_zero.mpr h0))
    · rw [if_neg h0]
      exact .exact (by simpa only [divInt_ofRat] using flip_exact _ (canon_ofRat p) (mt Rat.num_eq_zero.mp h0))

theorem rn_isNan {a : NumI} {q : V} (h : RN a q) : isNan a = q.isNone := by
  cases q with
  | none => exact rn_none.mp h
  | some p => rw [rn_some.mp h]; exact canon_not_nan (canon_ofRat p)

theorem rn_cmp {a x : NumI} {q r : V} (h1 : RN a q) (h2 : RN x r) : HyN.cmp a x = cmpV q r := by
  cases q with
  | none => exact (cmp_nan_iff a x).mpr (Or.inl (rn_none.mp h1))
  | some p =>
    cases r with
    | none => exact (cmp_nan_iff a x).mpr (Or.inr (rn_none.mp h2))
    | some s =>
      rw [rn_some.mp h1, rn_some.mp h2, cmp_canon (canon_ofRat p) (canon_ofRat s), divInt_ofRat, divInt_ofRat,
        compareOfLessAndEq, apply_ite some, apply_ite some]
      rfl

/-- belongs with the `_ofRat` lemmas of `NumProof`; it is here because `ratText` is the language definition's -/
theorem display_ofRat (q : Rat) : display (ofRat q) = ratText q := by
  have hd : (ofRat q).down = 1 ↔ q.den = 1 := Int.ofNat_inj (n := 1)
  simp only [display_of_canon (canon_ofRat q), ratText, hd]
  rfl

theorem render_nan {a : NumI} (h : isNan a = true) : renderNumI a = .text nanText := by
  rw [renderNumI, isPos_nan h, display_nan _ (neg_nan h)]; rfl

/-- the interpreter reduces the scalar value mod 2³² where the definition says nothing of values that large -/
theorem rn_render {a : NumI} {q : V} (h : RN a q) :
    renderV q = .unspecified ∨ renderNumI a = renderV q := by
  cases q with
  | none => exact Or.inr (render_nan (rn_none.mp h))
  | some p =>
    rw [rn_some.mp h, renderV, renderNumI, isPos_ofRat, neg_ofRat, display_ofRat]
    by_cases hp : 0 ≤ p
    · simp only [hp, decide_true, ↓reduceIte, floor_ofRat hp]
      by_cases hbig : p.floor.toNat ≥ 4294967296
      · exact Or.inl (if_pos hbig)
      · right
        rw [if_neg hbig, Nat.mod_eq_of_lt (Nat.lt_of_not_ge hbig)]
        simp only [isScalar, Bool.or_eq_true, decide_eq_true_eq, Bool.and_eq_true]
    · right
      simp only [hp, decide_false, ↓reduceIte, Bool.false_eq_true]

theorem rn_ofNat (n : Nat) : RN (fromNum (n : Int)) (some ((n : Nat) : Rat)) := rn_some.mpr rfl

theorem numSim : NumSim NumI V RN where
  zero := rn_some.mpr rfl
  one := rn_some.mpr rfl
  nan := rn_none.mpr rfl
  ofNat := rn_ofNat
  add := rn_lift₂ add_nan_left add_nan_right add_ofRat
  mul := rn_lift₂ mul_nan_left mul_nan_right mul_ofRat
  neg := rn_neg
  inv := rn_inv
  isNan := rn_isNan
  cmp := rn_cmp
  render := rn_render

open HyP

theorem branch_rule (m : M NumI) (cnt : Nat) (l r : Area) (v : NumI) (m' : M NumI)
    (hpop : popWrap m m.1.cur = .ok (v, m')) (hv : Valid v) :
    areaCalc m cnt (.val 0 l r) =
      (if ∃ q, toRat v = some q ∧ q < (cnt : Rat) then areaCalc m' cnt l else areaCalc m' cnt r) ∧
    areaCalc m cnt (.val 1 l r) =
      (if ∃ q, toRat v = some q ∧ q = (cnt : Rat) then areaCalc m' cnt l else areaCalc m' cnt r) := by
  -- the model's comparison is the language's (`rn_cmp`); what remains is to read `cmpV`
  have hcmp : NumOps.cmp v (NumOps.ofNat cnt) = cmpV (toRat v) (some (cnt : Rat)) :=
    rn_cmp ⟨hv, rfl⟩ (rn_ofNat cnt)
  rw [area_question hpop, area_bang hpop, hcmp]
  cases toRat v with
  | none => simp [cmpV]
  | some q =>
    simp only [cmpV, Option.some.injEq, exists_eq_left']
    by_cases h1 : q < (cnt : Rat)
    · simp [h1, Rat.ne_of_lt h1]
    · by_cases h2 : q = (cnt : Rat) <;> simp [h1, h2]

end HyE
