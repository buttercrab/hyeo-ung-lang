import Hyeong.Lemmas.BigGcdCmp
import Hyeong.Lemmas.NumText
/-!
`to_string_base` and `from_string_base` transcribed over `BigNum` operations (`HyB`) compute the `Int`-level functions
of `Model.Num` (`HyN`), about which C09 is proved.
-/
namespace HyB

theorem digitChar_eq (k : Nat) : HyB.digitChar k = HyN.digitChar k := rfl
theorem digitVal_eq (c : Char) : HyB.digitVal c = HyN.digitVal c := rfl

theorem toIntLow_small {r : BigNum} {k : Nat} (h : Rep r k) (hk : k < B) : toIntLow r = k := by
  have hn : Norm [k] := ⟨limbs_cons.mpr ⟨hk, limbs_nil⟩, List.cons_ne_nil _ _, by cases k <;> rfl⟩
  have hv : value r.val = value [k] := by rw [← natAbs_toInt, h.2]; rfl
  rw [toIntLow, norm_unique h.1.1 hn hv]
  rfl

/-- the digit loop of `to_string_base` over `BigNum` division is `HyN.digitsRev` over `Nat` division -/
theorem digitsLoop_refines {base : BigNum} {b : Nat} (hb : Rep base b) (hb2 : 2 ≤ b) (hb36 : b ≤ 36) :
    ∀ (f : Nat) {num : BigNum} {n : Nat}, Rep num n → digitsLoop base f num = HyN.digitsRev b f n := by
  intro f
  induction f with
  | zero => intros; rfl
  | succ f ih =>
    intro num n hn
    have h0 : (b : Int) ≠ 0 := by omega
    have hlt : n % b < B := Nat.lt_trans (Nat.mod_lt n (by omega)) (by simp only [B]; omega)
    simp only [digitsLoop, HyN.digitsRev, hn.isZero, Int.natCast_eq_zero, decide_eq_true_eq]
    split
    · rfl
    · rw [toIntLow_small (Int.ofNat_tmod n b ▸ hn.rem hb h0) hlt, ih (Int.ofNat_tdiv n b ▸ hn.div hb h0)]
      rfl

theorem digitVal_le {c : Char} {k : Nat} (h : HyN.digitVal c = some k) : k ≤ c.toNat + 10 := by
  unfold HyN.digitVal at h
  split at h
  · cases h; omega
  · split at h
    · cases h; omega
    · cases h

/-- the Horner loop of `from_string_base` over `BigNum` operations is `HyN.horner` over `Nat`, failures included -/
theorem hornerB_refines {base : BigNum} {b : Nat} (hb : Rep base b) :
    ∀ (cs : List Char) {acc : BigNum} {a : Nat}, Rep acc a →
    match hornerB base cs acc, HyN.horner b cs a with
    | some r, some n => Rep r n
    | none, none => True
    | _, _ => False := by
  intro cs
  induction cs with
  | nil => intro acc a h; exact h
  | cons c cs ih =>
    intro acc a h
    simp only [hornerB, HyN.horner, digitVal_eq]
    cases hd : HyN.digitVal c with
    | none => trivial
    | some k =>
      -- `Rep.new` wants `k` in the range of `isize`; `digitVal_le` is there only to give some such bound
      have hk : k < 2 ^ 32 + 10 := Nat.lt_of_le_of_lt (digitVal_le hd) (Nat.add_lt_add_right c.val.toNat_lt 10)
      have := (h.mul hb).add (Rep.new (n := k) (by omega) (by omega))
      rw [← Int.natCast_mul, ← Int.natCast_add] at this
      exact ih this

theorem toStringBase_refines {x : BigNum} (hx : WF x) (b : Nat) (hb2 : 2 ≤ b) (hb36 : b ≤ 36) :
    toStringBase x b = some (HyN.toStringBase (toInt x) b) := by
  have hmag : Rep ⟨true, x.val⟩ (value x.val : Nat) := ⟨⟨hx.1, fun _ => rfl⟩, rfl⟩
  have hneg : (!x.pos) = decide (toInt x < 0) := by
    rw [show x.pos = decide (0 ≤ toInt x) from hx.rep.isPos, ← decide_not]
    exact decide_eq_decide.mpr Int.not_le
  simp only [toStringBase, HyN.toStringBase, show 1 ≤ b from by omega, hb36, and_self, not_true_eq_false,
    ↓reduceIte, digitsLoop_refines (Rep.new (n := b) (by omega) (by omega)) hb2 hb36 _ hmag, natAbs_toInt, hneg,
    HyN.digitsRev_fuel hb2 (value x.val + 1) (value x.val) (value x.val) (by omega) (by omega), decide_eq_true_eq]

theorem fromStringBase_eq (s : List Char) (b : Nat) (hb : 1 ≤ b ∧ b ≤ 36) :
    fromStringBase s b = (hornerB (new b) (HyN.stripMinus s).2 (new 0)).map
      (fun r => if (HyN.stripMinus s).1 then ⟨false, r.val⟩ else r) := by
  unfold fromStringBase HyN.stripMinus
  simp only [hb, and_self, not_true_eq_false, ↓reduceIte]
  split <;> simp

theorem fromStringBase_refines (s : List Char) (b : Nat) (hb2 : 2 ≤ b) (hb36 : b ≤ 36) :
    match fromStringBase s b, HyN.fromStringBase s b with
    | some r, some v => toInt r = v ∧ Norm r.val
    | none, none => True
    | _, _ => False := by
  have := hornerB_refines (Rep.new (n := b) (by omega) (by omega)) (HyN.stripMinus s).2
    (show Rep (new 0) ((0 : Nat) : Int) from Rep.new (by omega) (by omega))
  rw [fromStringBase_eq s b ⟨by omega, hb36⟩, HyN.fromStringBase_eq]
  cases h1 : hornerB (new b) (HyN.stripMinus s).2 (new 0) <;> cases h2 : HyN.horner b (HyN.stripMinus s).2 0 <;>
    simp only [h1, h2, Option.map_some, Option.map_none] at this ⊢
  -- what is left: both loops succeed, `this : Rep r n`
  rename_i r n
  obtain ⟨⟨hn, -⟩, hv⟩ := this
  cases (HyN.stripMinus s).1
  · exact ⟨hv, hn⟩    -- no sign
  · -- after a `-` the sign flag is cleared whatever the magnitude, so `-0` is read as a negative zero: the right value
    -- and a normalised magnitude, but not `WF`; this is why the conclusion is not `Rep r v`
    refine ⟨?_, hn⟩
    show -(value r.val : Int) = -(n : Int)
    rw [← natAbs_toInt r, hv, Int.natAbs_natCast]

end HyB
