import Hyeong.Lemmas.BigSigned
import Hyeong.Lemmas.NumProof
/-!
`gcd`, `PartialEq` and `partial_cmp` of `big_number.rs` on well-formed numbers. `gcd` is the Euclid loop `HyN.gcdE`
of `Model.Num` run on limbs; of `NumProof` only `gcdE_natAbs` is used, for the last conjunct of `gcd_correct`.
-/
namespace HyB

variable {a b : BigNum} {x y : Int}

theorem Rep.gcdLoop : ∀ (f : Nat) {a b : BigNum} {x y : Int}, Rep a x → Rep b y →
    Rep (gcdLoop f a b) (HyN.euclid f x y) := by
  intro f
  induction f with
  | zero => intro a b x y ha _; exact ha
  | succ f ih =>
    intro a b x y ha hb
    simp only [HyB.gcdLoop, HyN.euclid, hb.isZero, decide_eq_true_eq]
    split
    · exact ha
    · exact ih hb (ha.rem hb ‹_›)

theorem Rep.gcd (ha : Rep a x) (hb : Rep b y) : Rep (gcd a b) (HyN.gcdE x y) := by
  show Rep (HyB.gcdLoop (value b.val + 1) a b) (HyN.euclid (y.natAbs + 1) x y)
  rw [← hb.2, natAbs_toInt, hb.2]
  exact Rep.gcdLoop _ ha hb

theorem gcd_correct {a b : BigNum} (ha : WF a) (hb : WF b) :
    WF (gcd a b) ∧ toInt (gcd a b) = HyN.gcdE (toInt a) (toInt b) ∧
    (toInt (gcd a b)).natAbs = Int.gcd (toInt a) (toInt b) :=
  have h := ha.rep.gcd hb.rep
  ⟨h.1, h.2, by rw [h.2, HyN.gcdE_natAbs]⟩

theorem Rep.isPos (ha : Rep a x) : isPos a = HyN.isPosI x := by
  obtain ⟨h, rfl⟩ := ha
  exact Bool.eq_iff_iff.mpr (h.pos_iff.trans decide_eq_true_iff.symm)

theorem beq_correct {a b : BigNum} (ha : WF a) (hb : WF b) : beq a b = true ↔ toInt a = toInt b := by
  constructor
  · intro h
    unfold beq at h
    by_cases hz : (isZero a && isZero b) = true
    · simp only [Bool.and_eq_true] at hz
      rw [(toInt_eq_zero_iff a).mpr ((isZero_iff ha).mp hz.1), (toInt_eq_zero_iff b).mpr ((isZero_iff hb).mp hz.2)]
    · simp only [hz, Bool.false_eq_true, ↓reduceIte, Bool.and_eq_true, beq_iff_eq] at h
      cases a; cases b; simp only at h; rw [h.1, h.2]
  · intro h
    have := wf_unique ha hb h
    subst this
    unfold beq
    split <;> simp

theorem cmp_eq_compare {a b : BigNum} (ha : WF a) (hb : WF b) : cmp a b = compare (toInt a) (toInt b) := by
  have heq := beq_correct ha hb
  have hlt : (if a.pos then (if b.pos then lessCore a.val b.val else false)
      else if b.pos then true else lessCore b.val a.val) = true ↔ toInt a < toInt b := by
    obtain ⟨pa, va⟩ := a
    obtain ⟨pb, vb⟩ := b
    cases pa <;> cases pb
    · -- both negative: the magnitudes the other way round
      simp [toInt, lessCore_iff hb.1.1 ha.1.1]
    · -- negative against positive: less, since a negative number is not zero
      have hza := ha.2
      simp [toInt] at hza ⊢
      omega
    · -- positive against negative: never less
      simp [toInt]
    · -- both positive: the magnitudes
      simp [toInt, lessCore_iff ha.1.1 hb.1.1]
  simp only [cmp, compare, compareOfLessAndEq, hlt]
  by_cases h : toInt a = toInt b
  · simp [heq.mpr h, h]
  · simp only [mt heq.mp h, h, Bool.false_eq_true, ↓reduceIte]

theorem cmp_correct {a b : BigNum} (ha : WF a) (hb : WF b) :
    (cmp a b = .lt ↔ toInt a < toInt b) ∧ (cmp a b = .eq ↔ toInt a = toInt b) ∧ (cmp a b = .gt ↔ toInt b < toInt a) := by
  rw [cmp_eq_compare ha hb]
  exact ⟨Int.compare_eq_lt, Int.compare_eq_eq, Int.compare_eq_gt⟩

theorem Rep.beq (ha : Rep a x) (hb : Rep b y) : beq a b = decide (x = y) := by
  rw [← ha.2, ← hb.2, Bool.eq_iff_iff, beq_correct ha.1 hb.1, decide_eq_true_iff]

theorem Rep.cmp (ha : Rep a x) (hb : Rep b y) : cmp a b = compare x y :=
  ha.2 ▸ hb.2 ▸ cmp_eq_compare ha.1 hb.1

end HyB
