import Hyeong.Props.C03
import Hyeong.Lemmas.CopyView
/-!
# transfer of "halts with this output" to the optimised levels (C02) and to compiled programs (C03)
-/
namespace HyE
open HyN HyC

theorem Copies.at_least {p : List Cmd} {input out : List Char} (h : Copies p input out) :
    ∃ n0, ∀ n, n0 ≤ n → (runN p n (initCfg input)).2 = .ended ∧ (runN p n (initCfg input)).1.m.2.out = out ∧
      (runN p n (initCfg input)).1.m.2.err = [] := by
  obtain ⟨n0, h1, h23⟩ := h
  exact ⟨n0, fun n hn => by rw [runN_stable h1 hn]; exact ⟨h1, h23⟩⟩

theorem Copies.from (p : List Cmd) (input out : List Char) (h : Copies p input out) (m : Nat) :
    ∃ n, m ≤ n ∧ (runN p n (initCfg input)).2 = .ended ∧ (runN p n (initCfg input)).1.m.2.out = out ∧
      (runN p n (initCfg input)).1.m.2.err = [] := by
  obtain ⟨n0, h0⟩ := h.at_least
  exact ⟨max n0 m, Nat.le_max_right .., h0 _ (Nat.le_max_left ..)⟩

theorem Copies.levels {p : List Cmd} {input out : List Char} (h : Copies p input out) (hk : ∀ c ∈ p, c.kind ≤ 5)
    (budget level : Nat) (code : List Cmd) (size : Nat) (r : Opt2 NumI)
    (ho : HyE.optimize (N := NumI) budget level p ⟨splitLines input, [], []⟩ = .ok (code, size, r)) :
    ∃ n, (runN code n ⟨r.m, r.idx⟩).2 = .ended ∧ (runN code n ⟨r.m, r.idx⟩).1.m.2.out = out ∧
      (runN code n ⟨r.m, r.idx⟩).1.m.2.err = [] := by
  obtain ⟨j, hj⟩ := C02.opt_equiv budget level p hk input code size r ho
  obtain ⟨n0, hn0⟩ := h.at_least
  refine ⟨n0, ?_⟩
  have h1 := hj n0
  have h2 := hn0 (j + n0) (Nat.le_add_left ..)
  simp only [obs, Prod.mk.injEq] at h1
  have e : C02.start (N := NumI) input = initCfg input := rfl
  rw [e] at h1
  rw [h1.1, h1.2.2]
  exact ⟨h2.1, h2.2.1, h2.2.2⟩

/-- `X`: what the compiled program shows after `k` rounds, in the form C03 describes it -/
theorem Copies.seen {p : List Cmd} {input out : List Char} (h : Copies p input out) {X : Nat → Option (World × Status)} {j : Nat}
    (hX : ∀ k, ∃ n, k ≤ n ∧ X k = some (seen (runN p (j + n) (initCfg input)))) :
    ∃ k w, X k = some (w, .ended) ∧ w.out = out ∧ w.err = [] := by
  obtain ⟨n0, hn0⟩ := h.at_least
  obtain ⟨n, hn, hrun⟩ := hX n0
  have h2 := hn0 (j + n) (Nat.le_trans hn (Nat.le_add_left ..))
  exact ⟨n0, _, hrun.trans (congrArg (fun st => some (_, st)) h2.1), h2.2.1, h2.2.2⟩

theorem Copies.compiled {p : List Cmd} {input out : List Char} (h : Copies p input out) (hk : ∀ c ∈ p, c.kind ≤ 5)
    (hh : ∀ c ∈ p, 1 ≤ c.hangul) (hok : ∀ c ∈ p, AreaOk c.area)
    (budget level : Nat) (hl1 : 1 ≤ level) (code : List Cmd) (size : Nat) (r : Opt2 NumI)
    (ho : HyE.optimize (N := NumI) budget level p ⟨splitLines input, [], []⟩ = .ok (code, size, r)) :
    ∃ k w, (compile level size (code.take r.idx) r.m.1 (List.range size) r.m.2.out r.m.2.err (code.drop r.idx)).run input k =
      some (w, .ended) ∧ w.out = out ∧ w.err = [] :=
  let ⟨_, hj⟩ := C03.compiled_equiv budget level hl1 p hk hh hok input code size r ho
  h.seen hj

theorem Copies.compiled0 {p : List Cmd} {input out : List Char} (h : Copies p input out) (hok : ∀ c ∈ p, AreaOk c.area) :
    ∃ k w, (compile 0 0 [] (St.init : St NumI) (List.range 0) [] [] p).run input k = some (w, .ended) ∧ w.out = out ∧ w.err = [] :=
  h.seen (j := 0) fun k => by simpa only [Nat.zero_add] using C03.compiled_level0 p hok input k

end HyE
