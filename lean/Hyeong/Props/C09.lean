import Hyeong.Lemmas.BigText
/-!
# C09 — numbers survive being written as text and read back

`HyN.toStringBase / fromStringBase / display / fromString` are the `Int`-level models of
`BigNum::to_string_base`, `from_string_base`, `Display for Num`, `Num::from_string`;
`HyB.toStringBase / fromStringBase` are the literal transcriptions over limb arithmetic and are
proved to compute the `Int`-level functions. Property theorems only.
-/
namespace HyN.C09

/-- integers: reading back the rendering in the same base returns the same integer (bases 2…36) -/
theorem big_roundtrip (x : Int) (b : Nat) (hb2 : 2 ≤ b) (hb36 : b ≤ 36) :
    fromStringBase (toStringBase x b) b = some x := HyN.big_roundtrip x b hb2 hb36

/-- the rendering is the conventional one: leading minus for negatives, digits `0-9A-Z` below the
base with positional value `|x|`, `0` for zero and no leading zero otherwise -/
theorem digits_conventional (x : Int) (b : Nat) (hb2 : 2 ≤ b) (hb36 : b ≤ 36) :
    toStringBase x b = (if x < 0 then ['-'] else []) ++ magDigits x b ∧
    (∀ c ∈ magDigits x b, ∃ k, k < b ∧ c = digitChar k ∧
      (('0' ≤ c ∧ c ≤ '9') ∨ ('A' ≤ c ∧ c ≤ 'Z'))) ∧
    horner b (magDigits x b) 0 = some x.natAbs ∧
    (x = 0 → magDigits x b = ['0']) ∧ (x ≠ 0 → (magDigits x b).head? ≠ some '0' ∧ magDigits x b ≠ []) :=
  HyN.digits_conventional x b hb2 hb36

/-- rationals (negatives, fractions) and NaN: reading back the decimal rendering returns an equal
number — the mechanism by which a level-2 compiled program restores its stacks -/
theorem num_roundtrip (n : NumI) (h : Valid n) :
    (Canon n → fromString (display n) = some n) ∧
    (n.down = 0 → fromString (display n) = some nan) := HyN.num_roundtrip n h

/-- a whole stack rendered element by element and read back is the same stack (`vec_to_str` /
`Num::from_string` in the emitted program) -/
theorem stack_restore (st : List NumI) (h : ∀ n ∈ st, Canon n) :
    st.map (fun n => fromString (display n)) = st.map some :=
  List.map_congr_left fun n hn => (HyN.num_roundtrip n (Or.inl (h n hn))).1 (h n hn)

/-- tie of the literal transcription: the digit loop / Horner loop over `BigNum` operations
computes the `Int`-level functions above (for well-formed operands, bases 2…36) -/
theorem limb_level_text_refines {x : HyB.BigNum} (hx : HyB.WF x) (s : List Char) (b : Nat) (hb2 : 2 ≤ b) (hb36 : b ≤ 36) :
    HyB.toStringBase x b = some (toStringBase (HyB.toInt x) b) ∧
    (match HyB.fromStringBase s b, fromStringBase s b with
      | some r, some v => HyB.toInt r = v ∧ HyB.Norm r.val
      | none, none => True
      | _, _ => False) :=
  ⟨HyB.toStringBase_refines hx b hb2 hb36, HyB.fromStringBase_refines s b hb2 hb36⟩

/-- non-vacuity -/
example : fromString (display ⟨-3, 2⟩) = some ⟨-3, 2⟩ ∧ Canon ⟨-3, 2⟩ ∧
    toStringBase (-255) 16 = ['-', 'F', 'F'] ∧ fromStringBase ['-', 'Z', 'Z'] 36 = some (-1295) := by decide +kernel

end HyN.C09
