import Hyeong.Lemmas.ParseProof
import Hyeong.Generated.Extracted
import Hyeong.Lemmas.Tables
/-!
# C04 — parsing is total and yields exactly the commands the grammar defines

Property theorems only; helper lemmas live in `Hyeong.Lemmas.Tables` and `Hyeong.Lemmas.ParseProof`.
`HyP.parse` is the model of `src/core/parse.rs` (tied to the code by the
correspondence check), `HyP.specParse` is the independent grammar.
-/
namespace HyP.C04

/-- Main theorem: on every text the state machine of `parse.rs` returns exactly the
commands the grammar defines (kind, syllable count, dot count, area tree, line and
column of the first character, significant source characters). No bound on the text. -/
theorem parse_eq_spec : ∀ s : List Char, HyP.parse s = HyP.specParse s :=
  HyP.parse_eq_spec

/-- The area machine (what the two cursors of `parse.rs` build token by token)
computes the split-based definition: `?` loosest, `!` next, right nested, first heart
of a slot wins. -/
theorem area_machine_eq_areaOf (ts : List Tok) :
    fin (ts.foldl feed ([], [], none)) = areaOf ts :=
  HyP.machine_areaOf ts

/-- The `max_pos` pre-pass test means "an end syllable of that class occurs later". -/
theorem prepass_iff (k : Nat) (pre : List Char) (c : Char) (cs : List Char)
    (hc : isEndOf k c = false) :
    (decide (pre.length < maxPos (pre ++ c :: cs) k)) = cs.any (isEndOf k) :=
  HyP.maxPos_gt k pre c cs hc

/-- Totality / no unfinished command: every command the model emits has a kind below 6
(a started syllable part always closes), at least one syllable. -/
theorem kinds_lt_six (s : List Char) : ∀ c ∈ HyP.parse s, c.kind < 6 ∧ 1 ≤ c.hangul :=
  HyP.parse_kinds s

/-- Tie to the source: the character tables re-extracted from `parse.rs`/`area.rs` on this run
are exactly the tables the model and the grammar use (one-syllable commands in kind order,
start syllables, end syllables per class and in kind order, hearts in tag order, dot characters
and which of them weighs one, the Hangul syllable range, the listing alphabet of areas). -/
theorem extracted_tables :
    Ext.commands = cmdChars ∧ Ext.headSyl = cmdChars ++ startChars ∧
    Ext.endSyl = endTable.map (·.1) ∧
    Ext.end0 = (endTable.filter (·.2.1 == 0)).map (·.1) ∧
    Ext.end1 = (endTable.filter (·.2.1 == 1)).map (·.1) ∧
    Ext.end2 = (endTable.filter (·.2.1 == 2)).map (·.1) ∧
    endTable.map (·.2.2) = List.range 6 ∧
    Ext.hearts = heartChars ∧ Ext.areaChars = '?' :: '!' :: heartChars ∧
    Ext.dotChars = dotTable.map (·.1) ∧ (dotTable.filter (·.2 == 1)).map (·.1) = [Ext.dotOne] ∧
    (∀ c, isHangul c = (decide (Ext.hangulLo ≤ c.toNat) && decide (c.toNat ≤ Ext.hangulHi))) :=
  ⟨rfl, rfl, rfl, rfl, rfl, rfl, rfl, rfl, rfl, rfl, rfl, fun _ => rfl⟩

/-- ... and the character-class functions the model and the grammar use are lookups in those
tables (so together with `extracted_tables`: lookups in the tables of the Rust source). -/
theorem class_functions_are_table_lookups (c : Char) :
    cmd1Idx c = cmdChars.idxOf? c ∧ startIdx c = startChars.idxOf? c ∧
    endInfo c = (endTable.find? (·.1 == c)).map (·.2) ∧
    dotW c = (dotTable.find? (·.1 == c)).map (·.2) ∧
    heartIdx c = (heartChars.idxOf? c).map (· + 2) :=
  ⟨cmd1Idx_eq c, startIdx_eq c, endInfo_eq c, dotW_eq c, heartIdx_eq c⟩

/-- non-vacuity: a concrete text with a multi-syllable command, ellipsis, nested area. -/
example : (HyP.parse "a♥혀어엉…?♥!💖 . 하 흑".toList).map (fun c => (c.kind, c.hangul, c.dots, c.loc)) =
    [(0, 3, 3, (1, 2)), (5, 1, 0, (1, 15))] := by decide +kernel

end HyP.C04
