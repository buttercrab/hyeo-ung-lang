import Hyeong.Lemmas.ReplPlain
/-!
# C12 — entering a program line by line interactively equals running it whole

`HyE.repl` is the model of `src/app/interpreter.rs` (session transcript on standard output),
`HyE.executeAll` the incremental execution both the session and `run` (level 0) perform, `HyE.iterOk`
/ `runN` the preloaded semantics of C01.  Statements are for input-free programs (no command selects
stack 0: `NoIn`) and are generic in the number interpretation.  Property theorems only.
-/
namespace HyE.C12
variable {N : Type} [NumOps N]

/-- Incremental = preloaded: entering commands one at a time (the code vector grows; jump targets
always lie in the code entered so far) is a sequence of ordinary steps of the whole program, ending
right behind the commands entered; a stop is met by the whole program's run at the same point. -/
theorem incremental_eq_preloaded (cs : List Cmd) (fuel : Nat) (m : M N) (hinv : InvK 0 m.1) :
    (∀ code m', executeAll fuel [] m cs = some (.ok (code, m')) →
      code = cs ∧ ∃ j, iterOk cs j ⟨m, 0⟩ = some ⟨m', cs.length⟩) ∧
    (∀ e, executeAll fuel [] m cs = some (.error e) →
      ∃ j c1, iterOk cs j ⟨m, 0⟩ = some c1 ∧ c1.loc < cs.length ∧ step cs c1 = .error e) := by
  have ht := fun r => executeAll_trace cs (fuel := fuel) (pre := []) (r := r) List.prefix_rfl hinv
  exact ⟨fun code m' h => ht _ h, fun e h => ht _ h⟩

/-- Line by line = whole, at the level of command lists: per-line buffers concatenate to exactly what
the whole run writes (each character once, in order; stdout and stderr separately) and the final
states agree — whatever remaining input each line sees. -/
theorem chunks_eq_whole (fuel : Nat) (chunks : List (List Cmd × List (List Char))) (r0 : List (List Char))
    (code : List Cmd) (m : M N) (hg : ∀ x ∈ flat chunks, NoIn x)
    (h : executeAll fuel [] ((St.init : St N), ⟨r0, [], []⟩) (flat chunks) = some (.ok (code, m))) :
    ∃ outs, runChunks fuel [] (St.init : St N) chunks = some (outs, code, m.1) ∧
      m.2.out = (outs.map (·.1)).flatten ∧ m.2.err = (outs.map (·.2)).flatten :=
  HyE.chunks_eq_whole fuel chunks [] (St.init : St N) r0 [] [] code m hg (Nat.succ_ne_zero 2) h

/-- The session: entering plain program lines shows, after each prompt, exactly the two buffers of
that line (`[stdout] …`, `[stderr] …`), and ends at end of input with status 0; with
`chunks_eq_whole` the shown text is the whole run's text, character for character. -/
theorem repl_equiv (fuel : Nat) (lines : List (List Char)) (r0 : List (List Char)) (code : List Cmd) (m : M N)
    (hpl : ∀ l ∈ lines, Plain l) (hg : ∀ x ∈ flat (chunksOf lines), NoIn x)
    (h : executeAll fuel [] ((St.init : St N), ⟨r0, [], []⟩) (flat (chunksOf lines)) = some (.ok (code, m))) :
    ∃ outs : List (List Char × List Char), m.2.out = (outs.map (·.1)).flatten ∧ m.2.err = (outs.map (·.2)).flatten ∧
      repl fuel (lines.length + 1) lines (⟨[], St.init⟩ : ReplState N) banner =
        (banner ++ (outs.map (fun oe => prompt ++ showBuffers oe.1 oe.2)).flatten ++ prompt, .exit 0) :=
  repl_whole ⟨[], St.init⟩ banner hpl (Nat.lt_succ_self _) hg (Nat.succ_ne_zero 2) h

/-- …and when the program stops in the middle — an exit requested through stack 1/2, or unencodable
output: if the whole run stops with `e` having written `w.out`/`w.err`, the session shows the buffers of
the completed lines, then — after the prompt of the stopping line — what that line had written up to the
stop, and ends with the requested status (`stopEnd`: `exit c` for a requested exit, otherwise the diagnosed error); together these texts are exactly
`w.out`/`w.err`, every character once and in order. -/
theorem repl_stop_equiv (fuel : Nat) (lines : List (List Char)) (r0 : List (List Char)) (e : Stop) (w : World)
    (hpl : ∀ l ∈ lines, Plain l) (hg : ∀ x ∈ flat (chunksOf lines), NoIn x)
    (h : executeAll fuel [] ((St.init : St N), ⟨r0, [], []⟩) (flat (chunksOf lines)) = some (.error (e, w))) :
    ∃ (outs : List (List Char × List Char)) (po pe : List Char),
      w.out = (outs.map (·.1)).flatten ++ po ∧ w.err = (outs.map (·.2)).flatten ++ pe ∧
      repl fuel (lines.length + 1) lines (⟨[], St.init⟩ : ReplState N) banner =
        (banner ++ (outs.map (fun oe => prompt ++ showBuffers oe.1 oe.2)).flatten ++ prompt ++ showBuffers po pe, stopEnd e) :=
  repl_whole ⟨[], St.init⟩ banner hpl (Nat.lt_succ_self _) hg (Nat.succ_ne_zero 2) h

/-- `clear` returns to the initial state -/
theorem clear_resets (fuel k : Nat) (l : List Char) (rest : List (List Char)) (rs : ReplState N) (shown : List Char)
    (h : trim l = "clear".toList) :
    repl fuel (k + 1) (l :: rest) rs shown = repl fuel k rest (⟨[], St.init⟩ : ReplState N) (shown ++ prompt) :=
  HyE.clear_resets fuel k l rest rs shown h

end HyE.C12
