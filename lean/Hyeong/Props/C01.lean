import Hyeong.Lemmas.SimNum
import Hyeong.Lemmas.DefEquiv
/-!
# C01 — the interpreter executes every program according to the language definition

`HyE.step`/`runN` instantiated with `HyN.NumI` is the model of `execute.rs` + `state.rs` + `area.rs`
over the model of `num.rs`; instantiated with `V = Option Rat` and the rendering rules of
`Hyeong.Spec.Lang` it is the language definition over mathematical numbers.
Property theorems only; helper lemmas are in `Hyeong.Lemmas.StepRel`, `SimBasic`, `SimNum` and `DefEquiv`.
-/
namespace HyE.C01
open HyN

/-- One command: from corresponding configurations, executing the command at the current location
gives corresponding configurations, or the same stop (exit code / encoding error) with the same text
written up to that moment — unless the language definition declares the write unspecified. -/
theorem step_refines_spec (p : List Cmd) {c : Cfg NumI} {c' : Cfg V} (h : RCfg RN c c') :
    RelRes (RCfg RN) (step p c) (step p c') :=
  .of (step_sim numSim p h)

/-- Main theorem: for every program, every input text and every number of steps `n`, the
interpreter model and the language definition have written the same standard output and standard
error, are at the same command, stand the same way (running, normal end, exit 0/1, encoding error
`k`) and hold corresponding stacks / selected stack / label table / return target — for every
intermediate state, hence every prefix of the outputs, also of non-terminating runs.
The only exclusion is a run the definition has declared unspecified (a write of a value ≥ 2³²). -/
theorem run_refines_spec (p : List Cmd) (input : List Char) (n : Nat) :
    (runN p n (specInit input)).2 = .stopped .unspecified ∨
    (obs (runN p n (initCfg input)) = obs (runN p n (specInit input)) ∧
      RS RN (runN p n (initCfg input)).1.m.1 (runN p n (specInit input)).1.m.1) :=
  runN_sim numSim p n (RCfg.init _)

/-- the relation between the stacks says: same length, element-wise the model number is a
canonical rational or NaN whose value is the definition's number -/
theorem related_stacks_mean {s : St NumI} {s' : St V} (h : RS RN s s') (i : Nat) :
    (s.stacks i).length = (s'.stacks i).length ∧ s.cur = s'.cur ∧ s.points = s'.points ∧ s.latest = s'.latest :=
  ⟨(h.stacks i).length_eq, h.cur, h.points, h.latest⟩

/-- Against the stand-alone definition. `Hyeong.Spec.Definition` (`HyD`) is an executable definition of the
language written on its own — its own state, push/pop rules of the I/O stacks 0/1/2, the six commands,
the area walk, labels and the return heart, over `Option Rat` — sharing with the interpreter model only
the data types of commands. For every program, input text and number `n` of commands: unless the
definition declares the run unspecified, the interpreter model has written the same standard output and
standard error, has the same input left, is at the same command and stands the same way (running /
ended / exit 0|1 / encoding error), and — while no halt has occurred — holds corresponding stacks,
selected stack, labels and return point. -/
theorem meets_definition (p : List Cmd) (input : List Char) (n : Nat) :
    (HyD.run p n (HyD.initial input) 0).2.2 = .halted .unspecified ∨
    ((runN p n (initCfg input)).1.m.2 = HyD.toW (HyD.run p n (HyD.initial input) 0).1 ∧
     (runN p n (initCfg input)).1.loc = (HyD.run p n (HyD.initial input) 0).2.1 ∧
     (runN p n (initCfg input)).2 = HyD.toStatus (HyD.run p n (HyD.initial input) 0).2.2 ∧
     ((∀ h, (HyD.run p n (HyD.initial input) 0).2.2 ≠ .halted h) →
        RS RN (runN p n (initCfg input)).1.m.1 (HyD.toSt (HyD.run p n (HyD.initial input) 0).1))) := by
  have hd := HyD.run_eq p n (HyD.initial input) 0 (HyD.okIn_initial input)
  rw [show (⟨HyD.toM (HyD.initial input), 0⟩ : Cfg V) = specInit input from rfl] at hd
  obtain ⟨hw, hl, hs, hst⟩ := hd
  refine (run_refines_spec p input n).imp (fun hu => HyD.toStatus_unspecified (hs ▸ hu)) fun ⟨ho, hrs⟩ => ?_
  simp only [obs, Prod.mk.injEq] at ho
  exact ⟨ho.1.trans hw, ho.2.1.trans hl, ho.2.2.trans hs, fun hh => hst hh ▸ hrs⟩

/-- non-vacuity: a program that prints, jumps and exits; model and definition agree after 10 steps -/
example : obs (runN [⟨0, 1, 8, 8, .val 3 .nil .nil⟩, ⟨0, 1, 9, 9, .nil⟩, ⟨1, 1, 1, 1, .nil⟩, ⟨5, 1, 1, 1, .val 0 .nil .nil⟩] 10 (initCfg [])) =
    (⟨[], [Char.ofNat 9, Char.ofNat 8], []⟩, 3, .stopped (.exit 0)) := by decide +kernel

end HyE.C01
