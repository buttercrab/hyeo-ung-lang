import Hyeong.Lemmas.OptQuiet
import Hyeong.Lemmas.OptFuel
import Hyeong.Generated.Extracted
/-!
# C10 — optimising a program never performs the program's effects and always finishes

Statements about `HyE.optimize` (model of `optimize.rs`), for every program whose commands have
at least one syllable (what the parser produces), every level, every world. Property theorems only.
-/
namespace HyE.C10
variable {N : Type} [NumOps N]

/-- No effects: a successful optimisation has read nothing from standard input (the remaining
input is exactly what it was), and a failing one fails with an output-encoding error — never with
a program-requested exit. (Text written by pre-executed commands only goes to the capture buffers,
which are part of the returned value.) -/
theorem optimize_pure (budget level : Nat) (p : List Cmd) (hh : ∀ c ∈ p, 1 ≤ c.hangul) (w : World) :
    match optimize (N := N) budget level p w with
    | .ok (_, _, r) => r.m.2.stdin = w.stdin
    | .error e => ∀ c, e ≠ .exit c :=
  optimize_quiet budget level p hh w

/-- every pop executed during pre-execution is from a stack above 2: a command whose guard passes
neither consumes input nor exits, also inside multi-operand commands and `?`/`!` areas -/
theorem pop_guarded (m : M N) (c : Cmd) (hh : 1 ≤ c.hangul) :
    (cmdGuard m.1 c = true → Quiet m.2.stdin (fun x : M N => x.2) (execCmd m c)) ∧
    (areaGuard m.1 c.area = true → Quiet m.2.stdin (fun x : Nat × M N => x.2.2) (areaCalc m c.areaCount c.area)) :=
  ⟨fun hg => execCmd_quiet m c hg hh, fun hg => areaCalc_quiet _ _ m hg⟩

/-- Always finishes: pre-executing top-level command `k` needs at most
`(budget+1)·(k+2)+1` loop iterations whatever the program does — the bound depends on the program
text only (position of the command, jump budget), not on the program's running time; giving the
loop more fuel changes nothing. -/
theorem optimize_steps_le (budget : Nat) (p : List Cmd) (k : Nat) (hk : k < p.length) (m : M N) (hinv : InvK k m.1) (extra : Nat) :
    optLoop budget p k (optFuel budget k + extra) m k 0 = optLoop budget p k (optFuel budget k) m k 0 :=
  optFuel_enough budget p k m extra

/-- Tie to the source, re-extracted on every run: every `pop_stack_wrap(` call site inside
`opt_execute` is preceded by its `cur_stack <= 2` bail-out, there are as many sites as the model has
guarded pops (5 command kinds + the area closure), and the jump budget is the model's. -/
theorem extracted_guards : Ext.popUnguarded = 0 ∧ Ext.popSites = 6 ∧ Ext.jumpBudget = 100 := by decide +kernel

end HyE.C10
