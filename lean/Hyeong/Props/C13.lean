import Hyeong.Lemmas.CliOutput
import Hyeong.Lemmas.Utf8
import Hyeong.Props.C04
import Hyeong.Generated.Extracted
/-!
# C13 — the command-line tool ends in a defined way on any file and any input

`HyE.cliRun` / `cliCheck` model the decision logic of `main.rs`, `app/run.rs`, `app/check.rs`,
`util/io.rs`, `util/ext.rs` (with the verdicts of the file system and the UTF-8 decoder as inputs).
**Partial**: `clap`, `termcolor`, std I/O and the native stack are trusted. Standard input may be any bytes
(`cliRunBytes`): it is cut into lines and decoded line by line as `read_line` does; a line that is not UTF-8
stops the run the first time the program reads it.  Property theorems only.
-/
namespace HyE.C13
variable {N : Type} [NumOps N]

/-- `run` at every level, any file verdict, any (decodable) input: whenever it ends, it ends with
status 0, with the status the program itself requested (0 or 1), or with status 1 after a diagnostic —
there is no other way out of the model (no crash outcome exists in `cliRun`; the indexing it relies on
is discharged below). -/
theorem cli_outcome (budget fuel level : Nat) (path : List Char) (extOk : Bool) (src : Option (List Char)) (stdin : List Char)
    (o : CliOut) (h : cliRun (N := N) budget fuel level path extOk src stdin = some o) :
    o.status ≤ 1 ∧ (o.diag = true → o.status = 1) :=
  cliRunLines_status budget fuel level path extOk src _ o h

/-- The same for **any bytes** on standard input (valid UTF-8 or not). -/
theorem cli_outcome_bytes (budget fuel level : Nat) (path : List Char) (extOk : Bool) (src : Option (List Char)) (stdin : List UInt8)
    (o : CliOut) (h : cliRunBytes (N := N) budget fuel level path extOk src stdin = some o) :
    o.status ≤ 1 ∧ (o.diag = true → o.status = 1) :=
  cliRunLines_status budget fuel level path extOk src _ o h

/-- Valid UTF-8 on standard input is its text: running on the bytes that encode a text is running on the text (so
everything proved for decoded input — `run_end_to_end`, C01, C02, C14 — holds for the byte-level tool). -/
theorem bytes_of_text (budget fuel level : Nat) (path : List Char) (extOk : Bool) (src : Option (List Char)) (stdin : List Char) :
    cliRunBytes (N := N) budget fuel level path extOk src (utf8Encode stdin) = cliRun (N := N) budget fuel level path extOk src stdin := by
  unfold cliRunBytes cliRun
  rw [decodeLines_encode]

/-- Input that is not UTF-8: when the program reads a line that cannot be decoded (stack 0 used up, the next line
marked undecodable) the command stops there with the input-error stop, and `run` shows everything written before,
prints the diagnostic and returns status 1. Lines never read do not matter. -/
theorem undecodable_input_diagnosed (s : St N) (w : World) (rest : List (List Char)) (hs : s.stacks 0 = [])
    (hw : w.stdin = [] :: rest) :
    popWrap (s, w) 0 = .error (.inputErr, w) ∧
    ∀ (pre : List Char) (code : List Cmd), finishRun (N := N) pre (some (.error (.inputErr, w))) = some ⟨pre ++ w.out, w.err, true, 1⟩ :=
  ⟨pop0_inputErr hs hw, fun _ _ => rfl⟩

/-- non-vacuity: `흑 항.` (read a character, print it) on the bytes `FF 0A`: diagnostic, status 1, nothing printed
after the log lines; on `41 FF 0A` likewise (the whole line is undecodable); on `41 0A FF` the first line is fine:
`A` is printed and the run ends normally without ever reading the bad line -/
example :
    let prog := "흑 항.".toList
    (cliRunBytes (N := HyN.NumI) 100 1000 0 "p".toList true (some prog) [0xFF, 0x0A]).map (fun o => (o.diag, o.status)) = some (true, 1) ∧
    (cliRunBytes (N := HyN.NumI) 100 1000 0 "p".toList true (some prog) [0x41, 0xFF, 0x0A]).map (fun o => (o.diag, o.status)) = some (true, 1) ∧
    (cliRunBytes (N := HyN.NumI) 100 1000 0 "p".toList true (some prog) [0x41, 0x0A, 0xFF]).map (fun o => (o.diag, o.status)) = some (false, 0) := by
  decide +kernel

/-- **End to end.** Whenever `hyeong run` ends on a readable `.hyeong` file, at any level, then after its log
lines it has printed exactly the standard output and standard error of the interpreter's (level-0,
preloaded) run of the parsed program on the given input, up to where that run ends normally (status 0),
exits (status = the requested 0 or 1) or stops on unencodable output (diagnostic, status 1). The only other
case: optimisation itself met unencodable output — only the diagnostic is shown (status 1), and the
unoptimised run stops on an encoding error too. Composes the models of main.rs/run.rs (incremental
`execute`), the parser (C04: what is run is what the grammar says), the optimiser (C02, C10) and the
interpreter (C01: its run is the language definition's). -/
theorem run_end_to_end (budget fuel level : Nat) (path src stdin : List Char) (o : CliOut)
    (h : cliRun (N := HyN.NumI) budget fuel level path true (some src) stdin = some o) :
    let code := (HyP.parse src).map Cmd.ofParsed
    let log0 := logLine ("parsing ".toList ++ path)
    let log := (if level = 0 then log0 else log0 ++ logLine ("optimizing to level ".toList ++ natStr level)) ++ logLine "running code".toList
    (∃ n, runOutcome log (runN code n (initCfg stdin)) = some o) ∨
    (level ≠ 0 ∧ o = ⟨log0 ++ logLine ("optimizing to level ".toList ++ natStr level), [], true, 1⟩ ∧
      ∃ n e, (runN code n (initCfg stdin)).2 = .stopped e ∧ ∀ c, e ≠ .exit c) :=
  HyE.run_end_to_end budget fuel level path src stdin o h

/-- a non-`.hyeong` name, an unreadable file or a file that is not UTF-8 is diagnosed with status 1 -/
theorem cli_bad_file (budget fuel level : Nat) (path stdin : List Char) (extOk : Bool) (src : Option (List Char))
    (h : extOk = false ∨ src = none) :
    cliRun (N := N) budget fuel level path extOk src stdin = some ⟨[], [], true, 1⟩ ∧
    cliCheck path [] extOk src = ⟨[], [], true, 1⟩ := by
  unfold cliRun cliRunLines cliCheck
  rcases h with h | h
  · subst h; simp
  · subst h; cases extOk <;> simp

/-- a program can only request exit status 0 or 1 (one step; lifted to whole runs in `cli_outcome`) -/
theorem exit_codes (p : List Cmd) (c : Cfg N) (e : Stop) (w : World) (h : step p c = .error (e, w)) (k : Nat)
    (hk : e = .exit k) : k ≤ 1 := by
  subst hk
  match (step_stop p c h : StepStop N (.exit k)) with
  | .pop .exit0 => exact Nat.zero_le 1
  | .pop .exit1 => exact Nat.le_refl 1

/-- `check` never indexes outside its tables: every parsed command has a kind below 6 (the length of
`COMMANDS`), and its listing ends with status 0 -/
theorem check_total (path fname src : List Char) :
    (∀ c ∈ HyP.parse src, c.kind < kindChars.length) ∧
    (cliCheck path fname true (some src)).status = 0 := by
  refine ⟨fun c hc => ?_, rfl⟩
  have := (HyP.C04.kinds_lt_six src c hc).1
  simpa [kindChars] using this

/-- Inventory of partial operations, re-extracted from the source on every run (per file: unwrap/expect,
unreachable!/panic!, process::exit, indexing expressions, integer casts). A change in any count
re-opens this theorem. Why each class is safe:
* `debug.rs`: the 25 `unwrap`s are `state_stack.last().unwrap()` (history never empty: `DbgInv`,
  C11 `dbg_no_crash`), writer flushes (in-memory `CustomWriter`, infallible) and `set_color/reset`;
  the 4 indexings are `un_opt_code[loc]` (guarded by the loop condition), `un_opt_code[*i]` for
  breakpoints (`DbgInv`: every breakpoint is a valid index — the D8 repair) and `parsed[0]`/`parsed[1]`
  (`splitSpaces_ne_nil`, length test);
* `interpreter.rs`/`io.rs`: flushes of in-memory writers and terminal colour calls; `io.rs` indexing is
  `self.buf[self.idx]` behind `idx == len` test (test double, unused by the tool);
* `check.rs`: `input.unwrap()`, `file_name().unwrap()` (a path that passed the extension test has a file
  name), `COMMANDS[type]` (`check_total`); `run.rs`: `input.unwrap()` (clap makes it required);
* `option.rs`: `value_of(..).unwrap()` on arguments with defaults, `unreachable!` behind clap's
  `possible_values`; `env::var("HOME").unwrap()` only for `build`/`install`;
* `execute.rs`: flushes before `process::exit`; casts `usize as isize`/`char as isize` (counts < 2³¹ by the
  property's own exclusion); `state.rs`: `self.code[loc]` (loop condition `cur_loc < length`; C02
  `InvK`), `self.stack[idx]` (C02 `renumber_good`: indices below the size);
* `area.rs`/`code.rs`: table lookup by a tag < 14 (tags come from `HEARTS`, `?`, `!`); `parse.rs`:
  `max_pos[t - 6]` with `6 ≤ t ≤ 8` (`"형항핫흣흡흑혀하흐".find(c) / 3`);
* `optimize.rs`: `opt_code_vec[idx..]` with `idx ≤ len`. -/
theorem partial_ops_inventory : Ext.partialOps =
    [("src/main.rs", [0, 0, 0, 0, 0]), ("src/app/run.rs", [1, 0, 0, 0, 0]), ("src/app/check.rs", [3, 0, 0, 1, 1]),
     ("src/app/debug.rs", [25, 0, 2, 4, 0]), ("src/app/interpreter.rs", [9, 0, 2, 0, 0]), ("src/util/io.rs", [12, 0, 2, 1, 0]),
     ("src/util/ext.rs", [2, 0, 0, 0, 0]), ("src/util/error.rs", [0, 0, 0, 0, 0]), ("src/util/option.rs", [5, 2, 0, 0, 0]),
     ("src/core/execute.rs", [4, 0, 2, 0, 5]), ("src/core/state.rs", [0, 0, 0, 4, 0]), ("src/core/area.rs", [0, 0, 0, 2, 4]),
     ("src/core/parse.rs", [0, 0, 0, 1, 5]), ("src/core/optimize.rs", [0, 0, 0, 1, 6]), ("src/core/code.rs", [0, 0, 0, 0, 0])] := by
  decide +kernel

end HyE.C13
