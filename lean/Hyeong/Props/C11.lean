import Hyeong.Lemmas.DbgRun
/-!
# C11 — the debugger shows the true state, steps back exactly, and never crashes

`HyE.dbgTrans` / `debugLoop` / `debugSession` model `src/app/debug.rs` (after the repairs D8, D13): one
loop iteration is either one running step / breakpoint stop or one prompt with the command read from
the script.  `Chain` says the history is a chain of real `execute_one` results.  Property theorems only.
-/
namespace HyE.C11
open HyP
variable {N : Type} [NumOps N] [ShowN N]

/-- No command sequence makes the debugger crash: for every source text and every script the session
ends by exit, by a diagnosed error, or is still going when the fuel runs out — never in a Rust panic
(unwrap on an empty history, command index or breakpoint index out of bounds). -/
theorem dbg_no_crash (fuel : Nat) (path fname src script : List Char) (w : String) :
    (debugSession (N := N) fuel path fname src script).2 ≠ .crash w := by
  unfold debugSession
  exact debugLoop_no_crash fname _ _ (by simp) fuel _ _ _ ⟨by simp, by simp⟩ w

/-- the invariant behind it, preserved by every loop iteration: a current snapshot always exists and
every breakpoint is 0 or a valid command index (`break N` with `N ≥` length is refused) -/
theorem invariant_preserved (fname : List Char) (pcode : List PCmd) (code : List Cmd) (hlen : pcode.length = code.length)
    (lines : List (List Char)) (d : Dbg N) (hinv : DbgInv code.length d) :
    (∀ t w, dbgTrans fname pcode code lines d ≠ .done t (.crash w)) ∧
    (∀ lines' d' t, dbgTrans fname pcode code lines d = .cont lines' d' t → DbgInv code.length d') :=
  ⟨dbgTrans_no_crash fname hlen lines hinv, fun _ _ _ h => (hlen ▸ dbgTrans_cont h).inv hinv⟩

/-- History invariant: every loop iteration leaves the history a chain of real interpreter steps from
the initial state, and changes it only by pushing one step on top (`next`, `run`, running) or by
removing the newest snapshot (`previous`) — older snapshots are never mutated. -/
theorem hist_inv (fname : List Char) (pcode : List PCmd) (code : List Cmd)
    (lines : List (List Char)) (d : Dbg N) (hc : Chain code d.hist) (lines' : List (List Char)) (d' : Dbg N) (t : List Char)
    (h : dbgTrans fname pcode code lines d = .cont lines' d' t) :
    Chain code d'.hist ∧ (d'.hist = d.hist ∨ d'.hist.tail = d.hist ∨ d'.hist = d.hist.tail) :=
  (dbgTrans_cont h).chain hc

/-- The displayed state is the true state: for an input-free program the snapshot on top of a history
with `k` older entries is exactly the interpreter's state and location after `k` commands. -/
theorem state_shows_true_state (code : List Cmd) (hn : ∀ c ∈ code, NoIn c) (rest : List (Snap N)) (top : Snap N)
    (hc : Chain code (top :: rest)) (w0 : World) :
    ∃ w', iterOk code rest.length ⟨(St.init, w0), 0⟩ = some ⟨(top.st, w'), top.loc⟩ :=
  (chain_run hn hc).2 w0

/-- `state` prints the snapshot on top of the history and changes nothing -/
theorem state_command (fname : List Char) (pcode : List PCmd) (code : List Cmd) (l : List Char) (rest : List (List Char))
    (d : Dbg N) (sn : Snap N) (older : List (Snap N)) (hh : d.hist = sn :: older) (hl : sn.loc < code.length)
    (hr : d.running = false) (hcmd : (splitSpaces (trim l)).headD [] = "s".toList) :
    dbgTrans fname pcode code (l :: rest) d = .cont rest d (prompt ++ showState sn) := by
  unfold dbgTrans
  -- the command words are compared as strings, not character by character
  simp only [hh, Nat.not_le.mpr hl, hr, hcmd, Bool.false_eq_true, ↓reduceIte, String.toList_inj, String.reduceEq,
    or_self, or_true]

/-- `previous` restores precisely the state before the last step: the new history is the old one
without its newest snapshot (and at the start nothing changes) -/
theorem previous_exact (fname : List Char) (pcode : List PCmd) (code : List Cmd) (l : List Char) (rest : List (List Char))
    (d : Dbg N) (sn : Snap N) (older : List (Snap N)) (hh : d.hist = sn :: older) (hl : sn.loc < code.length)
    (hr : d.running = false) (hcmd : (splitSpaces (trim l)).headD [] = "p".toList) :
    dbgTrans fname pcode code (l :: rest) d =
      match older with
      | [] => .cont rest d (prompt ++ errLine "can't go back".toList)
      | _ :: _ => .cont rest { d with hist := older } (prompt ++ logLine "moved back".toList) := by
  unfold dbgTrans
  simp only [hh, Nat.not_le.mpr hl, hr, hcmd, Bool.false_eq_true, ↓reduceIte, String.toList_inj, String.reduceEq,
    or_self, or_true]
  cases older <;> rfl

/-- `run` stops at the first command carrying a breakpoint: while running, an iteration at a
breakpoint executes nothing, shows the pending output and returns to the prompt; elsewhere it executes
exactly one command and keeps running. -/
theorem run_stops_first_bp (fname : List Char) (pcode : List PCmd) (code : List Cmd) (lines : List (List Char))
    (d : Dbg N) (sn : Snap N) (older : List (Snap N)) (hh : d.hist = sn :: older) (hl : sn.loc < code.length)
    (hr : d.running = true) :
    dbgTrans fname pcode code lines d =
      if d.bps.contains sn.loc then .cont lines { (flushBufs d).1 with running := false } (flushBufs d).2
      else match dbgStep code lines d with
        | .error (e, t) => .done t e
        | .ok d' => .cont lines d' [] := by
  rw [← Dbg.loc_eq hh] at hl ⊢
  exact dbgTrans_running fname pcode code lines (hh ▸ List.cons_ne_nil sn older) hl hr

/-- `run`, the whole stretch: while running, if the next `k` commands execute without meeting a breakpoint
or the end of the program and the command reached then carries a breakpoint, the session continues — for
every amount of fuel — exactly as from the prompt at that command, with those `k` commands on the history,
after showing (once) everything pending and everything they wrote. (`run` itself first executes one
command unconditionally and then behaves like this; `run_stops_first_bp` is the one-iteration version.) -/
theorem run_to_first_bp (fname : List Char) (pcode : List PCmd) (code : List Cmd) (lines : List (List Char))
    (k : Nat) (d dk : Dbg N) (shown : List Char) (fuel : Nat) (hr : d.running = true) (hne : d.hist ≠ [])
    (hs : dbgSteps code lines k d = some dk)
    (hno : ∀ i, i < k → ∀ di, dbgSteps code lines i d = some di → di.loc < code.length ∧ d.bps.contains di.loc = false)
    (hl : dk.loc < code.length) (hb : d.bps.contains dk.loc = true) :
    debugLoop fname pcode code (fuel + k + 1) lines d shown =
      debugLoop fname pcode code fuel lines { (flushBufs dk).1 with running := false } (shown ++ showBuffers dk.bufO dk.bufE) :=
  HyE.run_to_first_bp fname pcode code lines k d dk shown fuel hr hne hs hno hl hb

/-- Every character the program writes is shown exactly once, in order — the four facts that say so:

1. *nothing is pending at a prompt*: whenever the debugger is not running, both output buffers are empty;
   every loop iteration preserves this (`QuietD`), and the session starts that way;
2. *a command appends exactly its own output*: executing one command (`next`, `run`, while running) extends
   each buffer by precisely the text that command writes — the buffers it starts from are carried along
   unchanged (framing), nothing is dropped or repeated;
3. *every return to the prompt shows everything*: `next` prints the two buffers completely right after the
   command and clears them; a breakpoint stop does the same (`run_stops_first_bp`);
4. *so does the end*: when the program has finished, the remaining buffers are printed before the session ends. -/
theorem output_once (fname : List Char) (pcode : List PCmd) (code : List Cmd) :
    -- 1
    (QuietD (⟨[⟨St.init, 0, []⟩], [0], false, [], []⟩ : Dbg N) ∧
      ∀ lines (d : Dbg N), QuietD d → ∀ lines' d' t, dbgTrans fname pcode code lines d = .cont lines' d' t → QuietD d') ∧
    -- 2
    (∀ rest (d d' : Dbg N), dbgStep code rest d = .ok d' →
      ∃ sn c r, d.hist.head? = some sn ∧ code[sn.loc]? = some c ∧
        stepCmd (sn.st, (⟨rest, [], []⟩ : World)) c sn.loc = .ok r ∧
        d'.bufO = d.bufO ++ r.1.2.out ∧ d'.bufE = d.bufE ++ r.1.2.err) ∧
    -- 3
    (∀ l rest (d : Dbg N) sn older, d.hist = sn :: older → sn.loc < code.length → d.running = false →
      (splitSpaces (trim l)).headD [] = "n".toList → ∀ pc, pcode[sn.loc]? = some pc → ∀ d2, dbgStep code rest d = .ok d2 →
      dbgTrans fname pcode code (l :: rest) d =
        .cont rest (flushBufs d2).1 (prompt ++ listing fname [(sn.loc, pc)] ++ showBuffers d2.bufO d2.bufE) ∧
      (flushBufs d2).1.bufO = [] ∧ (flushBufs d2).1.bufE = []) ∧
    -- 4
    (∀ lines (d : Dbg N) sn older, d.hist = sn :: older → sn.loc ≥ code.length →
      dbgTrans fname pcode code lines d = .done (showBuffers d.bufO d.bufE) (.exit 0)) := by
  refine ⟨⟨fun _ => ⟨rfl, rfl⟩, fun _ _ hq _ _ _ h => (dbgTrans_cont h).quiet hq⟩, ?_, ?_, ?_⟩
  · intro rest d d' hs
    obtain ⟨sn, older, c, r, hh, hc, hr, rfl⟩ := dbgStep_ok hs
    -- framing: the same command from empty buffers writes the same text
    have hw := stepCmd_w (frameSim d.bufO d.bufE) (a := ((sn.st, (⟨rest, [], []⟩ : World)) : M N))
      (b := (sn.st, (⟨rest, d.bufO, d.bufE⟩ : World))) ⟨rfl, by simp [addPre]⟩ c sn.loc
    rw [hr] at hw
    generalize h0 : stepCmd ((sn.st, (⟨rest, [], []⟩ : World)) : M N) c sn.loc = x at hw
    cases hw with
    | ok hq => exact ⟨sn, c, _, congrArg List.head? hh, hc, h0, congrArg World.out hq.1.2, congrArg World.err hq.1.2⟩
  · intro l rest d sn older hh hl hr hcmd pc hpc d2 hs
    unfold dbgTrans
    simp only [hh, Nat.not_le.mpr hl, hr, hcmd, hpc, hs, Bool.false_eq_true, ↓reduceIte, or_true]
    exact ⟨rfl, rfl, rfl⟩
  · intro lines d sn older hh hl
    unfold dbgTrans
    simp only [hh, hl, ↓reduceIte]
    rfl

end HyE.C11
