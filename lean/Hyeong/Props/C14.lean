import Hyeong.Lemmas.CatN
import Hyeong.Lemmas.CatLoop
import Hyeong.Lemmas.CopyLevels
import Hyeong.Lemmas.Utf8
/-!
# C14 — Unicode text passes through a program unchanged

Statements about the interpreter model over the model numbers (`NumI`), i.e. the model of the real
interpreter; the optimised levels follow from C02's `opt_equiv`, compiled programs from C03.
Characters are Lean `Char`s = Unicode scalar values (U+0000 … U+10FFFF without surrogates). The UTF-8 byte
level: `utf8_input_is_its_text` (the lines the program sees for the encoding of a text are the text's lines)
and `cat_bytes` carry the statements to bytes; std's own codec is modelled by `Model.Cli.utf8Decode` /
`Lemmas.Utf8.utf8Encode` and tied on real pipes.  Property theorems only.
-/
namespace HyE.C14
open HyN HyC

/-- a character read from standard input and written to an output stack comes out as itself: the
number it is read as renders as exactly that character, and adding it to zero (what `항` does with
one operand) does not change it -/
theorem char_roundtrip (c : Char) :
    (NumOps.render (NumOps.add (NumOps.zero : NumI) (NumOps.ofNat c.toNat)) : Rendered) = .text [c] :=
  render_add_charNum c

/-- Fixed number of characters: `catN k` (`흑` then `k` × `항.`) halts normally having written exactly
the first `k` characters of the input to standard output and nothing to standard error — for every
input text: any scalar values incl. U+0000, any line structure, missing final line break, empty lines. -/
theorem catN_correct (input : List Char) (k : Nat) (hk : k ≤ input.length) :
    (runN (catN k) (k + 1) (initCfg input)).2 = .ended ∧
    (runN (catN k) (k + 1) (initCfg input)).1.m.2.out = input.take k ∧
    (runN (catN k) (k + 1) (initCfg input)).1.m.2.err = [] :=
  HyE.catN_correct input k hk

/-- the same at optimisation levels 1 and 2: whatever `optimize` returns for `catN k`, running it is
the unoptimised run shifted by the pre-executed steps (C02), hence writes the same text -/
theorem catN_levels (budget level : Nat) (input : List Char) (k : Nat)
    (code : List Cmd) (size : Nat) (r : Opt2 NumI)
    (h : optimize (N := NumI) budget level (catN k) ⟨splitLines input, [], []⟩ = .ok (code, size, r)) :
    ∃ j, ∀ n, obs (runN code n ⟨r.m, r.idx⟩) = obs (runN (catN k) (j + n) (initCfg input)) := by
  have hk : ∀ c ∈ catN k, c.kind ≤ 5 := by
    intro c hc
    simp only [catN, List.mem_cons, List.mem_replicate] at hc
    rcases hc with h | ⟨_, h⟩ <;> subst h <;> decide
  exact HyE.C02.opt_equiv budget level (catN k) hk input code size r h

/-- Copy until end of input: `cat` (a loop with one character of look-ahead; the end of the input is
recognised because it reads as NaN) halts normally having written exactly the input to standard output
and nothing to standard error — for every non-empty input text: every scalar value incl. U+0000, any
line structure, a missing final line break, empty lines, lines of any length. Proved by a loop invariant
at the print command over the not yet consumed input. (On the empty input a loop-until-end copier cannot
be silent in this language — DESIGN §5 C14 — and `cat` prints the NaN text.) -/
theorem cat_correct (input : List Char) (hne : input ≠ []) :
    ∃ n, (runN cat n (initCfg input)).2 = .ended ∧ (runN cat n (initCfg input)).1.m.2.out = input ∧
      (runN cat n (initCfg input)).1.m.2.err = [] :=
  HyE.cat_correct input hne

/-- start of a run on raw bytes: standard input cut into lines and decoded as `read_line` does -/
def initCfgBytes (bytes : List UInt8) : Cfg NumI := ⟨(St.init, ⟨decodeLines bytes, [], []⟩), 0⟩

/-- Every valid UTF-8 input is its text: for the encoding of any text (every scalar value in its 1–4 byte form, any
line structure) the program starts from exactly the configuration of that text -/
theorem utf8_input_is_its_text (input : List Char) : initCfgBytes (utf8Encode input) = initCfg input := by
  unfold initCfgBytes initCfg
  rw [decodeLines_encode]

/-- byte-exact copy: on the UTF-8 bytes of any non-empty text, `cat` halts normally and the bytes it has written
(the encoding of its output text) are exactly the input bytes; standard error stays empty -/
theorem cat_bytes (input : List Char) (hne : input ≠ []) :
    ∃ n, (runN cat n (initCfgBytes (utf8Encode input))).2 = .ended ∧
      utf8Encode (runN cat n (initCfgBytes (utf8Encode input))).1.m.2.out = utf8Encode input ∧
      (runN cat n (initCfgBytes (utf8Encode input))).1.m.2.err = [] := by
  obtain ⟨n, h1, h2, h3⟩ := HyE.cat_correct input hne
  refine ⟨n, ?_⟩
  rw [utf8_input_is_its_text]
  exact ⟨h1, by rw [h2], h3⟩

/-- the decoder accepts exactly what the encoder produces for a text, and gives the text back (all scalar values):
a byte string decodes to a text iff it is that text's UTF-8 encoding (shortest forms only, no surrogates) -/
theorem utf8_roundtrip (bs : List UInt8) (s : List Char) : utf8Decode bs = some s ↔ bs = utf8Encode s := decode_iff bs s

/-- the decoder at work: a four-byte character and a line feed; and what it refuses — an overlong form, a surrogate,
a value above U+10FFFF, a truncated sequence, a stray continuation byte (`decide` on concrete bytes: tests, not theorems) -/
example : utf8Decode [0xF0, 0x9F, 0x98, 0x80, 0x0A] = some [Char.ofNat 0x1F600, '\n'] := by decide +kernel
example : utf8Decode [0xC0, 0x80] = none ∧ utf8Decode [0xED, 0xA0, 0x80] = none ∧ utf8Decode [0xF4, 0x90, 0x80, 0x80] = none ∧
    utf8Decode [0xE4, 0xBD] = none ∧ utf8Decode [0x80] = none := by decide +kernel
example : decodeLines [0x41, 0x0A, 0xFF, 0x0A, 0x42] = [['A', '\n'], [], ['B']] := by decide +kernel

/-- **every valid UTF-8 input, byte for byte**: whatever bytes the strict decoder accepts (and at least one character),
`cat` halts normally having written exactly those bytes, and nothing to standard error -/
theorem cat_valid_utf8 (bytes : List UInt8) (text : List Char) (hv : utf8Decode bytes = some text) (hne : bytes ≠ []) :
    ∃ n, (runN cat n (initCfgBytes bytes)).2 = .ended ∧
      utf8Encode (runN cat n (initCfgBytes bytes)).1.m.2.out = bytes ∧
      (runN cat n (initCfgBytes bytes)).1.m.2.err = [] := by
  have hb := (decode_iff bytes text).mp hv
  subst hb
  have htext : text ≠ [] := by
    intro e; subst e; exact hne rfl
  exact cat_bytes text htext

/-- …and on the empty input it writes the NaN text and halts normally (a loop-until-end-of-input copier
cannot be silent there: the first pass through the print command happens before the first test) -/
theorem cat_empty : ∃ n, (runN cat n (initCfg [])).2 = .ended ∧ (runN cat n (initCfg [])).1.m.2.out = nanText ∧
    (runN cat n (initCfg [])).1.m.2.err = [] := HyE.cat_empty

/-- Reverse: `revN k` halts normally having written the first `k+1` characters of the input in reverse
order (the characters may span several lines) -/
theorem revN_correct (input : List Char) (k : Nat) (hk : k + 1 ≤ input.length) :
    (runN (revN k) (2 * k + 3) (initCfg input)).2 = .ended ∧
    (runN (revN k) (2 * k + 3) (initCfg input)).1.m.2.out = (input.take (k + 1)).reverse ∧
    (runN (revN k) (2 * k + 3) (initCfg input)).1.m.2.err = [] :=
  HyE.revN_correct input k hk

theorem cat_shape : (∀ c ∈ cat, c.kind ≤ 5) ∧ (∀ c ∈ cat, 1 ≤ c.hangul) ∧ (∀ c ∈ cat, AreaOk c.area) := by decide

/-- Identically at every optimisation level of the interpreter and when compiled at every level: whatever
`optimize` returns for `cat` (levels 1, 2), (a) running it as `run` does and (b) the executable built from
it halt normally with standard output = the input and empty standard error; (c) the same for the level-0
executable. By C02's `opt_equiv` and C03's `compiled_equiv`/`compiled_level0`. -/
theorem cat_all_levels (input : List Char) (hne : input ≠ []) :
    (∀ (budget level : Nat) (code : List Cmd) (size : Nat) (r : Opt2 NumI),
      HyE.optimize (N := NumI) budget level cat ⟨splitLines input, [], []⟩ = .ok (code, size, r) →
      (∃ n, (runN code n ⟨r.m, r.idx⟩).2 = .ended ∧ (runN code n ⟨r.m, r.idx⟩).1.m.2.out = input ∧
        (runN code n ⟨r.m, r.idx⟩).1.m.2.err = []) ∧
      (1 ≤ level → ∃ k w, (compile level size (code.take r.idx) r.m.1 (List.range size) r.m.2.out r.m.2.err (code.drop r.idx)).run input k =
        some (w, .ended) ∧ w.out = input ∧ w.err = [])) ∧
    (∃ k w, (compile 0 0 [] (St.init : St NumI) (List.range 0) [] [] cat).run input k = some (w, .ended) ∧ w.out = input ∧ w.err = []) := by
  have hc : Copies cat input input := HyE.cat_correct input hne
  refine ⟨fun budget level code size r ho => ⟨hc.levels cat_shape.1 budget level code size r ho,
    fun hl => hc.compiled cat_shape.1 cat_shape.2.1 cat_shape.2.2 budget level hl code size r ho⟩, hc.compiled0 cat_shape.2.2⟩

/-- End of input is seen by the program as NaN, and only then. -/
theorem eof_iff_nan (s : St NumI) (w : World) (hlines : ∀ l ∈ w.stdin, l ≠ [])
    (hst : ∀ x ∈ s.stacks 0, isNan x = false) (x : NumI) (m' : M NumI)
    (h : popWrap (s, w) 0 = .ok (x, m')) :
    isNan x = true ↔ (s.stacks 0 = [] ∧ w.stdin = []) :=
  HyE.eof_iff_nan s w hlines hst x m' h

/-- the lines `read_line` delivers for a valid UTF-8 input are never empty and together are exactly the input;
reading such lines always succeeds (no exit, no error on input). (An empty list in `stdin` is the model's mark
for a line that is not UTF-8: C13.) -/
theorem input_lines (input : List Char) :
    (splitLines input).flatten = input ∧ (∀ l ∈ splitLines input, l ≠ []) ∧
    ∀ (s : St NumI) (w : World), (∀ l ∈ w.stdin, l ≠ []) → ∃ x m', popWrap (s, w) 0 = .ok (x, m') :=
  ⟨(splitLines_flatten input).1, (splitLines_flatten input).2, pop0_total⟩

/-- non-vacuity: astral character, NUL, empty line, no final newline -/
example : (runN (catN 5) 6 (initCfg [Char.ofNat 0x1F600, Char.ofNat 0, '\n', '\n', 'x'])).1.m.2.out =
    [Char.ofNat 0x1F600, Char.ofNat 0, '\n', '\n', 'x'] := by decide +kernel

/-- non-vacuity of `cat_correct`: two lines, the second without line break -/
example : (runN cat 60 (initCfg ['a', '\n', 'b'])).2 = .ended ∧ (runN cat 60 (initCfg ['a', '\n', 'b'])).1.m.2.out = ['a', '\n', 'b'] := by
  decide +kernel

end HyE.C14
