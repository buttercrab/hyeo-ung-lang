import Hyeong.Lemmas.NumProof
import Hyeong.Lemmas.NumLRefine
/-!
# C06 — rationals compute exactly, stay canonical, NaN is absorbing

`HyN.NumI` is the model of `src/number/num.rs` over `Int`; `toRat` gives the mathematical value
(`none` = NaN), `Canon` is lowest terms with positive denominator. All statements are for
operands of any size. Property theorems only.
-/
namespace HyN.C06

/-- addition is exact and canonical -/
theorem add_exact (a b : NumI) (ha : Canon a) (hb : Canon b) :
    Canon (add a b) ∧ toRat (add a b) = some (Rat.divInt a.up a.down + Rat.divInt b.up b.down) :=
  HyN.add_exact a b ha hb

/-- multiplication is exact and canonical -/
theorem mul_exact (a b : NumI) (ha : Canon a) (hb : Canon b) :
    Canon (mul a b) ∧ toRat (mul a b) = some (Rat.divInt a.up a.down * Rat.divInt b.up b.down) :=
  HyN.mul_exact a b ha hb

/-- negation is exact and canonical -/
theorem neg_exact (a : NumI) (ha : Canon a) :
    Canon (neg a) ∧ toRat (neg a) = some (- Rat.divInt a.up a.down) :=
  HyN.neg_exact a ha

/-- reciprocal of a non-zero value is exact and canonical (sign moved to the numerator) -/
theorem flip_exact (a : NumI) (ha : Canon a) (h0 : a.up ≠ 0) :
    Canon (flip a) ∧ toRat (flip a) = some (Rat.divInt a.up a.down)⁻¹ :=
  HyN.flip_exact a ha h0

/-- reciprocal of zero is NaN -/
theorem flip_zero_nan (a : NumI) (h : a.up = 0) : isNan (flip a) = true :=
  HyN.flip_zero_nan a h

/-- floor of a non-negative value -/
theorem floor_exact (a : NumI) (ha : Canon a) (h0 : 0 ≤ a.up) :
    floor a = (Rat.divInt a.up a.down).floor :=
  HyN.floor_exact a ha h0

/-- Sums and products do not depend on the order of the operands or on the bracketing — not only as values but as
the stored numerator/denominator pair, hence also in every text printed from them. (The interpreter adds the popped
values one after the other; any other order would print the same.) -/
theorem add_comm_fields (a b : NumI) (ha : Canon a) (hb : Canon b) : add a b = add b a :=
  HyN.add_comm_fields a b ha hb
theorem mul_comm_fields (a b : NumI) (ha : Canon a) (hb : Canon b) : mul a b = mul b a :=
  HyN.mul_comm_fields a b ha hb
theorem add_assoc_fields (a b c : NumI) (ha : Canon a) (hb : Canon b) (hc : Canon c) :
    add (add a b) c = add a (add b c) :=
  HyN.add_assoc_fields a b c ha hb hc
theorem mul_assoc_fields (a b c : NumI) (ha : Canon a) (hb : Canon b) (hc : Canon c) :
    mul (mul a b) c = mul a (mul b c) :=
  HyN.mul_assoc_fields a b c ha hb hc

example : add (add ⟨1, 2⟩ ⟨1, 3⟩) ⟨1, 6⟩ = ⟨1, 1⟩ ∧ add ⟨1, 2⟩ (add ⟨1, 3⟩ ⟨1, 6⟩) = ⟨1, 1⟩ := by decide +kernel

/-- `Num::floor` on every canonical value: the floor for a non-negative value; for a negative one the truncation
toward zero `-⌊-q⌋` (`&self.up / &self.down` is `BigNum`'s truncating division). The interpreter applies `floor`
only to non-negative values (`push_stack_wrap` negates first); this says what the function is everywhere. -/
theorem floor_trunc (a : NumI) (ha : Canon a) :
    floor a = if 0 ≤ a.up then (Rat.divInt a.up a.down).floor else -((-(Rat.divInt a.up a.down)).floor) :=
  HyN.floor_trunc a ha

example : floor ⟨-7, 2⟩ = -3 ∧ floor ⟨7, 2⟩ = 3 ∧ floor ⟨-4, 1⟩ = -4 := by decide +kernel

/-- the sign test: true exactly for non-negative rationals (never for NaN) -/
theorem isPos_iff (a : NumI) (ha : Valid a) : isPos a = true ↔ ∃ q, toRat a = some q ∧ 0 ≤ q :=
  HyN.isPos_iff a ha

/-- canonical form: structural equality coincides with numeric equality -/
theorem canon_eq_iff (a b : NumI) (ha : Canon a) (hb : Canon b) : a = b ↔ toRat a = toRat b :=
  HyN.canon_eq_iff a b ha hb

/-- the normaliser (repaired `Num::optimize`) yields the canonical form of `up/down` for every
non-zero denominator of either sign, and is the identity on canonical values -/
theorem optimize_exact (n : NumI) (hd : n.down ≠ 0) :
    Canon (optimize n) ∧ toRat (optimize n) = some (Rat.divInt n.up n.down) :=
  HyN.optimize_exact n hd

theorem optimize_canon (n : NumI) (h : Canon n) : optimize n = n := HyN.optimize_canon h

/-- constructors produce canonical values -/
theorem constructors_canonical :
    Canon zero ∧ Canon one ∧ (∀ n : Int, Canon (fromNum n) ∧ toRat (fromNum n) = some (n : Rat)) ∧
    (∀ (up : Int) (down : Nat), down ≠ 0 → Canon (new up down) ∧ toRat (new up down) = some (Rat.divInt up down)) ∧
    (∀ up down : Int, down ≠ 0 → Canon (fromBigNum up down) ∧ toRat (fromBigNum up down) = some (Rat.divInt up down)) :=
  ⟨canon_zero, canon_one, canon_fromNum, new_exact, fromBigNum_exact⟩

/-- NaN is absorbing; reciprocal and negation of NaN are NaN; NaN prints as the fixed text and is
not "positive" -/
theorem nan_absorbing (a b : NumI) :
    (isNan a = true → add a b = nan ∧ add b a = nan ∧ mul a b = nan ∧ mul b a = nan ∧
      isNan (neg a) = true ∧ isNan (flip a) = true ∧ display a = nanText ∧ isPos a = false) ∧
    isNan nan = true :=
  ⟨fun h => ⟨add_nan_left b h, add_nan_right b h, mul_nan_left b h, mul_nan_right b h,
    neg_nan h, (flip_nan h).symm ▸ h, display_nan a h, isPos_nan h⟩, nan_isNan⟩

/-- integers print without denominator, everything else as `up/down` -/
theorem display_canon (a : NumI) (ha : Canon a) :
    ((∃ z : Int, toRat a = some (z : Rat)) → display a = toStringBase a.up 10) ∧
    (a.down ≠ 1 → display a = toStringBase a.up 10 ++ ['/'] ++ toStringBase a.down 10) := by
  constructor
  · rintro ⟨z, hz⟩
    rw [exact_iff.mp ⟨ha, hz⟩, ← exact_iff.mp (canon_fromNum z)]
    rfl
  · intro h
    rw [display_of_canon ha, if_neg h]
    exact (List.append_assoc _ ['/'] _).symm

/-- The tie of "`Num` over `Int`" to `num.rs` as written: `HyNL` is `num.rs` transcribed literally over the
limb model of `big_number.rs` (fields `up`, `down : BigNum`; `optimize` calls `BigNum::gcd`, `minus`, `/=`;
`add`/`mul` the limb operations; `flip`, `floor`, `is_pos`, `partial_cmp` as in the source). For operands
whose fields satisfy the representation invariant, every operation of `HyNL` yields fields satisfying it
and, read as integers, is exactly the `Int`-level operation the theorems above are about (through C05). -/
theorem limb_level_refines {a b : HyNL.NumL} (ha : HyNL.WFL a) (hb : HyNL.WFL b) :
    (HyNL.WFL (HyNL.add a b) ∧ HyNL.toNumI (HyNL.add a b) = add (HyNL.toNumI a) (HyNL.toNumI b)) ∧
    (HyNL.WFL (HyNL.mul a b) ∧ HyNL.toNumI (HyNL.mul a b) = mul (HyNL.toNumI a) (HyNL.toNumI b)) ∧
    (HyNL.WFL (HyNL.neg a) ∧ HyNL.toNumI (HyNL.neg a) = neg (HyNL.toNumI a)) ∧
    (HyNL.WFL (HyNL.flip a) ∧ HyNL.toNumI (HyNL.flip a) = flip (HyNL.toNumI a)) ∧
    (HyB.toInt a.down ≠ 0 → HyB.WF (HyNL.floor a) ∧ HyB.toInt (HyNL.floor a) = floor (HyNL.toNumI a)) ∧
    (HyB.toInt a.down ≠ 0 → HyNL.WFL (HyNL.optimize a) ∧ HyNL.toNumI (HyNL.optimize a) = optimize (HyNL.toNumI a)) ∧
    HyNL.isPos a = isPos (HyNL.toNumI a) ∧ HyNL.isNan a = isNan (HyNL.toNumI a) ∧
    HyNL.cmp a b = cmp (HyNL.toNumI a) (HyNL.toNumI b) :=
  ⟨(ha.rep.add hb.rep).out, (ha.rep.mul hb.rep).out, ha.rep.neg.out, ha.rep.flip.out,
   fun h => ha.rep.floor h, fun h => (ha.rep.optimize h).out, ha.rep.isPos, ha.rep.isNan, ha.rep.cmp hb.rep⟩

/-- non-vacuity / regression witnesses (D2): with the defect these evaluated to a negative
denominator -/
example : add ⟨1, 2⟩ ⟨-2, 1⟩ = ⟨-3, 2⟩ ∧ Canon (add ⟨1, 2⟩ ⟨-2, 1⟩) ∧ new (-6) 4 = ⟨-3, 2⟩ := by decide +kernel

end HyN.C06
