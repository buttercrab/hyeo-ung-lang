import Hyeong.Lemmas.NumProof
import Hyeong.Lemmas.SimNum
/-!
# C07 — comparison of rationals is the numeric order; NaN is unordered
(core `Rat` has no `Ord` instance, hence four iff-statements). Property theorems only.
-/
namespace HyN.C07

theorem cmp_lt_iff (a b : NumI) (ha : Canon a) (hb : Canon b) :
    cmp a b = some .lt ↔ Rat.divInt a.up a.down < Rat.divInt b.up b.down :=
  HyN.cmp_lt_iff a b ha hb

theorem cmp_eq_iff (a b : NumI) (ha : Canon a) (hb : Canon b) :
    cmp a b = some .eq ↔ Rat.divInt a.up a.down = Rat.divInt b.up b.down :=
  HyN.cmp_eq_iff a b ha hb

theorem cmp_gt_iff (a b : NumI) (ha : Canon a) (hb : Canon b) :
    cmp a b = some .gt ↔ Rat.divInt b.up b.down < Rat.divInt a.up a.down :=
  HyN.cmp_gt_iff a b ha hb

/-- `unordered` exactly when at least one side is NaN -/
theorem cmp_nan_iff (a b : NumI) : cmp a b = none ↔ (isNan a = true ∨ isNan b = true) :=
  HyN.cmp_nan_iff a b

/-- the comparison is a strict total order on numbers: for two numbers exactly one of `<`, `=`, `>` is answered,
and the answer in the other direction is the mirrored one -/
theorem cmp_trichotomy (a b : NumI) (ha : Canon a) (hb : Canon b) :
    (cmp a b = some .lt ∧ cmp b a = some .gt) ∨ (cmp a b = some .eq ∧ cmp b a = some .eq) ∨
    (cmp a b = some .gt ∧ cmp b a = some .lt) :=
  HyN.cmp_trichotomy a b ha hb

theorem cmp_trans (a b c : NumI) (ha : Canon a) (hb : Canon b) (hc : Canon c)
    (h1 : cmp a b = some .lt) (h2 : cmp b c = some .lt) : cmp a c = some .lt :=
  HyN.cmp_trans a b c ha hb hc h1 h2

/-- `Equal` is answered exactly for identical fields (the canonical form of a value is unique, C06) -/
theorem cmp_eq_same (a b : NumI) (ha : Canon a) (hb : Canon b) : cmp a b = some .eq ↔ a = b :=
  HyN.cmp_eq_same a b ha hb

/-- Consequently: in the interpreter model a `?` branch is taken (left subtree) iff the popped value is a number
below the command's count, a `!` branch iff it is a number equal to it; every other value — in particular NaN —
goes right. (`v` is the value `pop` delivers from the selected stack; values on stacks are canonical rationals
or NaN, C01.) -/
theorem branch_rule (m : HyE.M NumI) (cnt : Nat) (l r : HyP.Area) (v : NumI) (m' : HyE.M NumI)
    (hpop : HyE.popWrap m m.1.cur = .ok (v, m')) (hv : Valid v) :
    HyE.areaCalc m cnt (.val 0 l r) =
      (if ∃ q, toRat v = some q ∧ q < (cnt : Rat) then HyE.areaCalc m' cnt l else HyE.areaCalc m' cnt r) ∧
    HyE.areaCalc m cnt (.val 1 l r) =
      (if ∃ q, toRat v = some q ∧ q = (cnt : Rat) then HyE.areaCalc m' cnt l else HyE.areaCalc m' cnt r) :=
  HyE.branch_rule m cnt l r v m' hpop hv

/-- regression witnesses (D3): `1 < 3`, `2 < 7/2`, values differing only in the denominator -/
example : cmp ⟨1, 1⟩ ⟨3, 1⟩ = some .lt ∧ cmp ⟨2, 1⟩ ⟨7, 2⟩ = some .lt ∧ cmp ⟨1, 2⟩ ⟨1, 3⟩ = some .gt ∧
    cmp ⟨-1, 2⟩ ⟨-1, 3⟩ = some .lt ∧ cmp ⟨5, 7⟩ ⟨5, 7⟩ = some .eq ∧ cmp nan ⟨1, 1⟩ = none := by decide +kernel

end HyN.C07
