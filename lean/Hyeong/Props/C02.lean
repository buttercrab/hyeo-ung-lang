import Hyeong.Lemmas.Level1Inst
import Hyeong.Lemmas.Level2Prefix
/-!
# C02 — optimisation levels 1 and 2 never change what a program does

`HyE.optimize` is the model of `optimize.rs` (level 1: renumbering; level 2: pre-execution with
budget, bail-outs, roll-back, capture).  Running the result as `run.rs` does means: deliver the
captured text, then continue the interpreter from the returned state at the first residual command.
All statements are generic in the number interpretation and hold for every program whose command
kinds are those the parser produces (`≤ 5`), every input, every number of steps — in particular for
programs that loop more than the budget, jump backwards after the last switch, read input in the
middle, exit through stack 1/2 or never terminate (the statement is per step count).
Property theorems only.
-/
namespace HyE.C02
variable {N : Type} [NumOps N]

/-- start of a run: initial state, given stdin, nothing written -/
def start (input : List Char) : Cfg N := ⟨(St.init, ⟨splitLines input, [], []⟩), 0⟩

/-- The renumbering is injective on the stacks a program can select (0…3 and every switch target),
keeps the I/O stacks fixed, separates the shared slot from them, and every index used by the
optimised code is below the size of the stack vector. -/
theorem renumber_good (p : List Cmd) :
    GoodMap (dotMap (liveList p)) (liveP (liveList p)) ∧
    (∀ c ∈ p, c.kind = 5 → liveP (liveList p) c.dots ∨ c.dots ≤ 3) ∧
    (∀ c ∈ (optimize1 p).1, c.kind ≠ 0 → c.dots < (optimize1 p).2) :=
  ⟨goodMap _, fun _ hc hk => .inl (switch_live p hc hk), renumber_lt_size p⟩

/-- Level 1, lock-step: after any number of steps the original and the renumbered program have
written the same text, are at the same command and stand the same way. -/
theorem level1_sim (p : List Cmd) (hk : ∀ c ∈ p, c.kind ≤ 5) (input : List Char) (n : Nat) :
    obs (runN p n (start (N := N) input)) = obs (runN (optimize1 p).1 n (start (N := N) input)) :=
  (runN_rel (goodMap _) (progRel_optimize1 p hk) n (RelM.init rfl (.inl (Nat.le_refl 3)) _) rfl).1

/-- Level 2, pre-execution is a prefix: the state `optimize` returns (with the captured text as its
output so far and the stdin untouched) is the configuration the ordinary run of the same code reaches
after some number of steps, standing at the first residual command. -/
theorem level2_prefix (budget : Nat) (p : List Cmd) (w : World) (r : Opt2 N)
    (h : optimize2Loop budget p p.length 0 (St.init, w) = .ok r) :
    ∃ j, iterOk p j ⟨(St.init, w), 0⟩ = some ⟨r.m, r.idx⟩ := by
  have := optimize2Loop_trace budget p p.length (m := ((St.init : St N), w)) (InvK.init 0) (Nat.zero_le _)
  rw [h] at this
  exact this.imp fun j hj => hj.1

/-- Main theorem. If optimisation at level 1 or 2 succeeds, then running its result — captured text
first, then the interpreter from the returned state — is, step for step, the run of the original
program shifted by the `j` pre-executed steps: same stdout, same stderr, same current command, same
way of standing/ending (normal end, exit 0/1, encoding error), for every `n`. -/
theorem opt_equiv (budget level : Nat) (p : List Cmd) (hk : ∀ c ∈ p, c.kind ≤ 5) (input : List Char)
    (code : List Cmd) (size : Nat) (r : Opt2 N)
    (h : optimize (N := N) budget level p ⟨splitLines input, [], []⟩ = .ok (code, size, r)) :
    ∃ j, ∀ n, obs (runN code n ⟨r.m, r.idx⟩) = obs (runN p (j + n) (start (N := N) input)) := by
  obtain ⟨j, hj, _⟩ := optimize_prefix h
  obtain ⟨rfl, _⟩ := optimize_ok h
  exact ⟨j, fun n => by rw [level1_sim p hk input (j + n), start, runN_iterOk hj n]⟩

/-- If optimisation itself stops with an output-encoding error, the unoptimised run stops with the
same error (text written before it may be withheld by the optimised run). -/
theorem opt_enc_error (budget level : Nat) (p : List Cmd) (hk : ∀ c ∈ p, c.kind ≤ 5) (input : List Char) (e : Stop)
    (h : optimize (N := N) budget level p ⟨splitLines input, [], []⟩ = .error e) :
    ∃ j, (runN p j (start (N := N) input)).2 = .stopped e := by
  have := optimize2Loop_trace budget (optimize1 p).1 (optimize1 p).1.length
    (m := ((St.init : St N), ⟨splitLines input, [], []⟩)) (InvK.init 0) (Nat.zero_le _)
  rw [optimize_error h] at this
  obtain ⟨w, hs⟩ := this
  obtain ⟨j, c1, hj⟩ := hs.runN
  refine ⟨j + 1, ?_⟩
  have h2 := level1_sim (N := N) p hk input (j + 1)
  simp only [obs, Prod.mk.injEq] at h2
  rw [h2.2.2]
  exact congrArg Prod.snd (hj _ (Nat.lt_succ_self j))

end HyE.C02
