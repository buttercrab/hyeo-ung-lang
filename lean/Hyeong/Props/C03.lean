import Hyeong.Lemmas.CompFinal
import Hyeong.Props.C01
import Hyeong.Props.C02
import Hyeong.Props.C10
/-!
# C03 — a compiled program behaves exactly like the interpreted program

`HyC.compile`/`HyC.emit` is the model of `build_source` (compile.rs): an IR (prelude kind, captured text,
restored level-2 state, block list) and its Rust text. `HyC.irRunN` is what the emitted `main` does at the
level of the IR: one iteration of `while state < n { dispatch; block; state += 1 }` with the heart code on
*block* indices; `Prog.run` adds the restore lines in front.

Property theorems only. What is proved: for every program with the parser's command kinds, hangul
counts and area tags, every input and every level, the executable's loop has — after every iteration —
written exactly what the interpreter has written after some (later or equal) number of steps of the
*unoptimised* program and stands the same way (running / normal end / exit 0|1 / encoding error n);
with `C01.run_refines_spec` that is the language definition. What is not proved but tied by the check:
that rustc accepts the text and that the prelude's `Stack::pop/push` and the command templates mean
`popWrap`/`pushWrap`/`execCmd` (the emitted text is compared byte for byte with `emit`, and compiled
programs are run against the definition).
-/
namespace HyC.C03
open HyE HyN

/-- blocks: the command list cut into non-empty pieces, every area-carrying command alone in its
piece, and the compiler's command→block table sends each of them to the piece that starts with it -/
theorem blocks_partition (p : List Cmd) :
    Blocking p ((BB.mk [] []).addAll p).1.finish ((BB.mk [] []).addAll p).2 := by
  simpa using (BInv.init.addAll p).finish

/-- dispatch: for every number of blocks, the emitted `if state < mid {…} else {…}` cascade runs
exactly block `state` -/
theorem dispatch_selects (blocks : List (List Cmd)) (st : Nat) (h : st < blocks.length) :
    (mkTree blocks.toArray blocks.length 0 blocks.length).select st = blocks[st] := by
  rw [select_mkTree blocks.toArray blocks.length 0 blocks.length st (Nat.le_refl _) (Nat.zero_le _) (by omega)]
  simp [Array.getD, h]

/-- the loop of the compiled program simulates the interpreter block by block (any number type):
from related configurations, after `k` iterations it has written what the interpreter has written
after some `n ≥ k` steps and stands the same way -/
theorem loop_refines_interpreter {N : Type} [NumOps N] {p : List Cmd} {blocks : List (List Cmd)} {bo : List Nat}
    (hb : Blocking p blocks bo) (hok : ∀ c ∈ p, AreaOk c.area) (k : Nat) {c ci : Cfg N} (hr : Rel p blocks bo c ci) :
    ∃ n, k ≤ n ∧ seen (irRunN blocks k ci) = seen (runN p n c) :=
  irRunN_sim hb hok k hr

/-- the restore lines of a level-2 program read back the stacks they were written from (up to the
representation of NaN), for every state whose numbers are canonical rationals or NaN -/
theorem restore_reads_back (size : Nat) (s : St NumI) (hs : Supp size s) (hv : ∀ i, LR NE (s.stacks i) (s.stacks i))
    (cur : Nat) (last : Option Nat) (pts : List (Nat × Nat)) (start : Nat) :
    (⟨stackTexts size s, cur, last, pts, start⟩ : Restore).parses = true ∧
    ∀ i, LR NE ((⟨stackTexts size s, cur, last, pts, start⟩ : Restore).stackAt i) (s.stacks i) :=
  restore_ok size s hs hv cur last pts start

theorem seen_of_obs {N N' : Type} {a : Cfg N × Status} {b : Cfg N' × Status} (h : obs a = obs b) :
    seen a = seen b := by
  simp only [obs, Prod.mk.injEq] at h
  simp only [seen, h.1, h.2.2]

/-- Below level 2 nothing is pre-executed: whatever the code (also none at all), the executable built from it starts from
the initial state and runs as the interpreter does on that code. `level` and `size` only pick the prelude. -/
theorem compiled_plain (level size : Nat) (hl : ¬ level ≥ 2) (code : List Cmd) (hok : ∀ c ∈ code, AreaOk c.area)
    (input : List Char) (k : Nat) :
    ∃ n, k ≤ n ∧ (compile level size [] (St.init : St NumI) (List.range size) [] [] code).run input k =
      some (seen (runN code n (initCfg input))) := by
  by_cases hp : code = []
  · subst hp
    exact ⟨k, Nat.le_refl _, by rw [runN_ended (Nat.not_lt_zero _) k]; rfl⟩
  · obtain ⟨h1, h2, hb, hr⟩ := entry_plain level size hl code hp input
    exact Prog.run_sim h1 h2 hb hok hr k

/-- Level 0. -/
theorem compiled_level0 (p : List Cmd) (hok : ∀ c ∈ p, AreaOk c.area) (input : List Char) (k : Nat) :
    ∃ n, k ≤ n ∧ (compile 0 0 [] (St.init : St NumI) (List.range 0) [] [] p).run input k = some (seen (runN p n (initCfg input))) :=
  compiled_plain 0 0 (by decide) p hok input k

/-- `compiled_equiv` below holds at every level: `HyE.optimize` is total in the level (below 2 it only renumbers), and the
proof never asks which level it is beyond that. -/
theorem compiled_equiv_all_levels (budget level : Nat) (p : List Cmd) (hk : ∀ c ∈ p, c.kind ≤ 5)
    (hh : ∀ c ∈ p, 1 ≤ c.hangul) (hok : ∀ c ∈ p, AreaOk c.area) (input : List Char)
    (code : List Cmd) (size : Nat) (r : Opt2 NumI)
    (h : HyE.optimize (N := NumI) budget level p ⟨splitLines input, [], []⟩ = .ok (code, size, r)) :
    ∃ j, ∀ k, ∃ n, k ≤ n ∧
      (compile level size (code.take r.idx) r.m.1 (List.range size) r.m.2.out r.m.2.err (code.drop r.idx)).run input k =
        some (seen (runN p (j + n) (initCfg input))) := by
  obtain ⟨j, hj⟩ := C02.opt_equiv budget level p hk input code size r h
  refine ⟨j, fun k => ?_⟩
  suffices ∃ n, k ≤ n ∧
      (compile level size (code.take r.idx) r.m.1 (List.range size) r.m.2.out r.m.2.err (code.drop r.idx)).run input k =
        some (seen (runN code n ⟨r.m, r.idx⟩)) from
    this.imp fun n hn => ⟨hn.1, hn.2.trans (congrArg some (seen_of_obs (hj n)))⟩
  obtain ⟨rfl, rfl, hopt⟩ := optimize_ok h
  have hokc : ∀ c ∈ (optimize1 p).1, AreaOk c.area := optimize1_forall (fun _ _ h => h) hok
  by_cases hl : level ≥ 2
  · rw [if_pos hl] at hopt
    have hstdin : r.m.2.stdin = splitLines input := by
      have := C10.optimize_pure (N := NumI) budget level p hh ⟨splitLines input, [], []⟩
      rw [h] at this; exact this
    by_cases hres : (optimize1 p).1.drop r.idx = []
    · -- everything was pre-executed: the program only prints the captured text
      have hw : (⟨splitLines input, r.m.2.out, r.m.2.err⟩ : World) = r.m.2 := hstdin ▸ rfl
      refine ⟨k, Nat.le_refl _, ?_⟩
      rw [hres, runN_ended (Nat.not_lt.mpr (List.drop_eq_nil_iff.mp hres)) k]
      exact congrArg (fun w => some (w, Status.ended)) hw
    · -- the state `optimize` returned is reached by a run from the start, so it has the invariants of runs
      obtain ⟨j0, hj0⟩ := C02.level2_prefix budget _ _ r hopt
      have hlt := optimize2Loop_lt budget _ _ 0 (St.init, _) r (Targets.init (· < 0)) (Nat.zero_le _) hopt
      have hsz : 3 < (optimize1 p).2 := by show 3 < 4 + _ + 1; omega
      obtain ⟨hc, ci, cm, bo, he, hb, hrel, hrc⟩ := entry_level2 level _ hl _ r.m.1 r.m.2 r.idx hlt.2 hlt.1
        (iterOk_ctlOk hj0 (Targets.init _))
        (iterOk_supp (by omega) (renumber_lt_size p) hj0 ⟨hsz, fun _ _ => rfl⟩)
        (iterOk_ne hj0 (RCfg.init _)).stacks hres input hstdin
      obtain ⟨n, hn, hs⟩ := Prog.run_sim hc he hb hokc hrel k
      exact ⟨n, hn, hs.trans (congrArg some (seen_of_obs (runN_ne _ n hrc).1))⟩
  · -- below level 2 `optimize` returns the initial state
    rw [if_neg hl] at hopt
    subst hopt
    exact compiled_plain level _ hl _ hokc input k

/-- Levels 1 and 2 (main theorem). If `optimize` succeeds, the executable built from its result — captured
text printed first, restored stacks / selected stack / labels / return target translated to block
indices, loop entered at the first residual block — behaves, iteration by iteration, like the
interpreter on the *original* program: there is an offset `j` (the pre-executed steps) such that after
every number `k` of loop iterations the executable has written exactly what the interpreter has
written after `j + n` steps for some `n ≥ k`, and stands the same way. In particular: it ends
normally / exits with 0 or 1 / stops on unencodable output iff the interpreter does, with the same
standard output and standard error. -/
theorem compiled_equiv (budget level : Nat) (hl1 : 1 ≤ level) (p : List Cmd) (hk : ∀ c ∈ p, c.kind ≤ 5)
    (hh : ∀ c ∈ p, 1 ≤ c.hangul) (hok : ∀ c ∈ p, AreaOk c.area) (input : List Char)
    (code : List Cmd) (size : Nat) (r : Opt2 NumI)
    (h : HyE.optimize (N := NumI) budget level p ⟨splitLines input, [], []⟩ = .ok (code, size, r)) :
    ∃ j, ∀ k, ∃ n, k ≤ n ∧
      (compile level size (code.take r.idx) r.m.1 (List.range size) r.m.2.out r.m.2.err (code.drop r.idx)).run input k =
        some (seen (runN p (j + n) (initCfg input))) :=
  compiled_equiv_all_levels budget level p hk hh hok input code size r h

/-- With C01: what the executable shows is what the language definition (mathematical rationals)
prescribes — unless the definition leaves the run unspecified (a write of a value ≥ 2³²). -/
theorem compiled_meets_definition (budget level : Nat) (hl1 : 1 ≤ level) (p : List Cmd) (hk : ∀ c ∈ p, c.kind ≤ 5)
    (hh : ∀ c ∈ p, 1 ≤ c.hangul) (hok : ∀ c ∈ p, AreaOk c.area) (input : List Char)
    (code : List Cmd) (size : Nat) (r : Opt2 NumI)
    (h : HyE.optimize (N := NumI) budget level p ⟨splitLines input, [], []⟩ = .ok (code, size, r)) :
    ∃ j, ∀ k, ∃ n, k ≤ n ∧ ((runN p (j + n) (specInit input)).2 = .stopped .unspecified ∨
      (compile level size (code.take r.idx) r.m.1 (List.range size) r.m.2.out r.m.2.err (code.drop r.idx)).run input k =
        some (seen (runN p (j + n) (specInit input)))) := by
  obtain ⟨j, hj⟩ := compiled_equiv budget level hl1 p hk hh hok input code size r h
  refine ⟨j, fun k => (hj k).imp fun n hn => ⟨hn.1, ?_⟩⟩
  exact (C01.run_refines_spec p input (j + n)).imp id fun ho => hn.2.trans (congrArg some (seen_of_obs ho.1))

/-- non-vacuity: `형.♥ 형.. 항. 흑 항.♥`-like program with a label, a jump back and an exit, compiled at
level 0: three blocks; the executable's loop prints and exits as the interpreter does -/
example : ((compile 0 0 [] (St.init : St NumI) [] [] []
      [⟨0, 1, 8, 8, .val 3 .nil .nil⟩, ⟨0, 1, 9, 9, .nil⟩, ⟨1, 1, 1, 1, .nil⟩, ⟨5, 1, 1, 1, .val 0 .nil .nil⟩]).blocks.length = 3) := by
  decide

end HyC.C03
