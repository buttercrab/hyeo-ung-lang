import Hyeong.Lemmas.BigGcdCmp
/-!
# C05 — big integers compute exactly like mathematical integers

`HyB` is the model of `src/number/big_number.rs` (sign + little-endian base-2³² limbs; the cores
produce the same vectors as the Rust loops). `toInt` is the mathematical value, `WF` the
representation invariant (limbs < 2³², no superfluous high zero limb, zero is "positive").
All statements hold for operands with any number of limbs. Property theorems only.
-/
namespace HyB.C05

theorem add_correct {a b : BigNum} (ha : WF a) (hb : WF b) :
    WF (add a b) ∧ toInt (add a b) = toInt a + toInt b := HyB.add_correct ha hb

theorem sub_correct {a b : BigNum} (ha : WF a) (hb : WF b) :
    WF (sub a b) ∧ toInt (sub a b) = toInt a - toInt b := HyB.sub_correct ha hb

theorem mul_correct {a b : BigNum} (ha : WF a) (hb : WF b) :
    WF (mul a b) ∧ toInt (mul a b) = toInt a * toInt b := HyB.mul_correct ha hb

/-- truncating division (non-zero divisor) -/
theorem div_correct {a b : BigNum} (ha : WF a) (hb : WF b) (h0 : toInt b ≠ 0) :
    WF (div a b) ∧ toInt (div a b) = (toInt a).tdiv (toInt b) := HyB.div_correct ha hb h0

/-- remainder with the sign of the dividend -/
theorem rem_correct {a b : BigNum} (ha : WF a) (hb : WF b) (h0 : toInt b ≠ 0) :
    WF (rem a b) ∧ toInt (rem a b) = (toInt a).tmod (toInt b) := HyB.rem_correct ha hb h0

theorem neg_correct {a : BigNum} (ha : WF a) :
    WF (neg a) ∧ toInt (neg a) = - toInt a ∧ WF (minus a) ∧ toInt (minus a) = - toInt a :=
  ⟨ha.rep.neg.1, ha.rep.neg.2, ha.rep.minus⟩

theorem eq_correct {a b : BigNum} (ha : WF a) (hb : WF b) : beq a b = true ↔ toInt a = toInt b :=
  HyB.beq_correct ha hb

theorem cmp_correct {a b : BigNum} (ha : WF a) (hb : WF b) :
    (cmp a b = .lt ↔ toInt a < toInt b) ∧ (cmp a b = .eq ↔ toInt a = toInt b) ∧
    (cmp a b = .gt ↔ toInt b < toInt a) := HyB.cmp_correct ha hb

/-- `gcd` terminates within its fuel, is the sign-faithful Euclid loop on truncating remainders
(the `Int`-level loop of `Model.Num`), and its magnitude is the greatest common divisor -/
theorem gcd_correct {a b : BigNum} (ha : WF a) (hb : WF b) :
    WF (gcd a b) ∧ toInt (gcd a b) = HyN.gcdE (toInt a) (toInt b) ∧
    (toInt (gcd a b)).natAbs = Int.gcd (toInt a) (toInt b) := HyB.gcd_correct ha hb

/-- construction from any machine integer (`isize`, 64 bit) preserves its value -/
theorem new_correct (n : Int) (h1 : -(2 ^ 63) ≤ n) (h2 : n < 2 ^ 63) : WF (new n) ∧ toInt (new n) = n :=
  HyB.new_correct n h1 h2

theorem fromVec_correct {v : List Nat} (hv : Limbs v) (hne : v ≠ []) :
    WF (fromVec v) ∧ toInt (fromVec v) = value v := HyB.rep_fromVec hv hne

/-- the normalised form is canonical: equal values have identical representations -/
theorem wf_unique {a b : BigNum} (ha : WF a) (hb : WF b) (h : toInt a = toInt b) : a = b :=
  HyB.wf_unique ha hb h

/-! the limb cores, for arbitrary vectors with limbs below 2³² -/

theorem addCore_value {a b : List Nat} (ha : Limbs a) (hb : Limbs b) :
    value (addCore a b) = value a + value b ∧ Limbs (addCore a b) :=
  ⟨HyB.addCore_value a b, HyB.addCore_limbs ha hb⟩

theorem subCore_value {l r : List Nat} (hl : Norm l) (hr : Norm r) :
    ((subCore l r).2 = true ↔ value l < value r) ∧
    value (subCore l r).1 = (if value l < value r then value r - value l else value l - value r) ∧
    Limbs (subCore l r).1 ∧ (subCore l r).1 ≠ [] := HyB.subCore_value hl hr

/-- `mult_core`: value, and no limb of the `u64` accumulator exceeds 32 bits at the end
(the final `as u32` casts truncate nothing) -/
theorem multCore_value {l r : List Nat} (hl : Limbs l) (hr : Limbs r) :
    value (multCore l r) = value l * value r ∧ Limbs (multCore l r) ∧
    (multCore l r).length = l.length + r.length + 1 := HyB.multCore_spec hl hr

theorem divCore_value {l r : List Nat} (hl : Limbs l) (hr : Limbs r) (hR : 0 < value r) :
    value (divCore l r) = value l / value r ∧ Limbs (divCore l r) ∧
    (divCore l r).length = max l.length r.length := HyB.divCore_spec hl hr hR

theorem lessCore_iff {l r : List Nat} (hl : Limbs l) (hr : Limbs r) :
    lessCore l r = true ↔ value l < value r := HyB.lessCore_iff hl hr

/-- non-vacuity: multi-limb operands at carry boundaries are well-formed and compute
(the cores recurse on two lists at once, so they are unfolded with `simp`, not `decide`) -/
example : WF ⟨false, [4294967295, 4294967295]⟩ ∧ WF ⟨true, [0, 1]⟩ ∧ toInt ⟨true, [0, 1]⟩ ≠ 0 ∧
    mul ⟨false, [4294967295, 4294967295]⟩ ⟨true, [4294967295]⟩ = ⟨false, [1, 4294967295, 4294967294]⟩ ∧
    add ⟨true, [4294967295, 4294967295]⟩ ⟨true, [1]⟩ = ⟨true, [0, 0, 1]⟩ ∧
    new 4294967296 = ⟨true, [0, 1]⟩ := by
  refine ⟨?_, ?_, by decide, ?_, ?_, ?_⟩
  · exact ⟨⟨limbs_cons.mpr ⟨by decide, limbs_cons.mpr ⟨by decide, limbs_nil⟩⟩, List.cons_ne_nil _ _, by decide⟩, by decide⟩
  · exact ⟨⟨limbs_cons.mpr ⟨by decide, limbs_cons.mpr ⟨by decide, limbs_nil⟩⟩, List.cons_ne_nil _ _, by decide⟩, by decide⟩
  · simp [mul, multCore, multRows, rowAcc, fromVec, shrink, dropZeros, minus, isZero, B, List.replicate]
  · simp [add, addCore, addC, fromVec, shrink, dropZeros, B]
  · simp [new, shrink, dropZeros, B]

end HyB.C05
