import Hyeong.Lemmas.Render
import Hyeong.Lemmas.Listing
/-!
# C08 — any command list can be written as source text and is read back unchanged

`HyP.IsRendering c t` says that the text `t` is *a* way of writing the command `c`: the command word
(one syllable, or start syllable + arbitrary filler without a closing syllable of the same class +
closing syllable, with the right number of Hangul syllables), followed by any tail that contains no
character able to start a command — dots and ellipses in any mix and amount before the first area
character, redundant hearts, dots after the area began, end syllables, foreign text, whitespace anywhere.
`Rend cs txt`: `txt` is such renderings one after the other.  Through C04's `parse_eq_spec` all
statements are about the model of `parse.rs`.  Property theorems only.
-/
namespace HyP.C08
open HyE

/-- Main theorem: a text made of renderings of the commands — whatever filler was used — preceded by
any text that cannot start a command, parses back to exactly those commands (kind, syllable count,
dot count, area tree). No bound on counts or tree sizes. -/
theorem parse_render (cs : List SCmd) (pre body : List Char) (hp : TailOk pre) (h : Rend cs body) :
    (parse (pre ++ body)).map PCmd.strip = cs :=
  HyP.parse_rend cs pre body hp h

/-- Every command with kind below 6, at least one syllable and an area the grammar can denote has a
rendering (so the theorem above is not vacuous), namely the canonical one. -/
theorem render_exists (c : SCmd) (hk : c.kind < 6) (hh : 1 ≤ c.hangul) (areaTxt : List Char)
    (hall : ∀ x ∈ areaTxt, isAreaCh x = true) (ha : areaC areaTxt = c.area) :
    IsRendering c (render c areaTxt) :=
  HyP.render_isRendering c hk hh areaTxt hall ha

/-- The source text reported for each parsed command is a rendering of that command, and all of them
one after the other are a rendering of the parsed command list … -/
theorem raw_is_render (s : List Char) : Rend ((parse s).map PCmd.strip) ((parse s).map (·.raw)).flatten :=
  parse_raw_rend s

/-- … hence re-parsing the concatenation of the reported source texts returns the same commands,
for every input text. -/
theorem reparse_raw (s : List Char) :
    (parse ((parse s).map (·.raw)).flatten).map PCmd.strip = (parse s).map PCmd.strip :=
  HyP.reparse_raw s

/-- The line `check` prints for a command (`KIND_h_d AREA`, bracketed infix area) determines the
command; the side conditions hold for everything the parser returns (`kinds_lt_six`, `parsed_area_dispOk`). -/
theorem listing_injective (s1 s2 : List Char) (c1 c2 : PCmd) (h1 : c1 ∈ parse s1) (h2 : c2 ∈ parse s2)
    (h : checkLine c1 = checkLine c2) : c1.strip = c2.strip :=
  HyE.listing_injective c1 c2 (parse_kinds s1 c1 h1).1 (parse_kinds s2 c2 h2).1
    (parsed_area_dispOk s1 c1 h1) (parsed_area_dispOk s2 c2 h2) h

/-- non-vacuity: a rendering with filler syllables, an ellipsis, redundant hearts, dots after the
area, foreign text and leading garbage -/
example : (parse "zz 혀형어엉 …. ♥♥!💖 . x 흑".toList).map PCmd.strip =
    [⟨0, 4, 4, .val 1 (.val 2 .nil .nil) (.val 5 .nil .nil)⟩, ⟨5, 1, 0, .nil⟩] := by decide +kernel

end HyP.C08
